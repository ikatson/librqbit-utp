import UtpVerif.Lemmas.VSockRecv
import UtpVerif.Lemmas.Segments
import UtpVerif.Lemmas.Rx
import UtpVerif.Props.C04
import UtpVerif.Props.C11
/-!
# C10 — arbitrary datagrams never crash, wedge or cross-contaminate the socket

Component level: for *every* header / byte string and every state satisfying the component invariant the
operation returns neither a panic nor a `Bug*` error and re-establishes the invariant.  The connection-level
statement ("`poll` never ends in `Bug*`") is validated by the lockstep run with a hostile peer stream and the
implementation-side `bug_errors` oracle; the per-connection `UnboundedReceiver` has no bound in the code and
is an assumption (DESIGN §5 C10).
-/
namespace UtpVerif.Props.C10
open UtpVerif.Model UtpVerif.Lemmas.Segments UtpVerif.Lemmas.Rx

/-- The datagram parser is a total function returning `Option`: for every byte string it either rejects
or returns a header and a header size within the datagram (no index is read beyond the checked length:
the fixed fields after the `len < 20` check, the chain through pattern matching). -/
theorem parser_total_and_bounded (buf : List Nat) (h : Header) (n : Nat)
    (hd : Header.deserialize buf = some (h, n)) : 20 ≤ n ∧ n ≤ buf.length := by
  obtain ⟨h20, _, _, k, hc, hn⟩ := (C11.deserialize_accepts_iff buf n).mp ⟨h, hd⟩
  have := hc.le_length
  rw [List.length_drop] at this
  omega

/-- **Any acknowledgement header** (any `ack_nr`, any selective-ACK bytes of any length) leaves the TX
segment queue consistent and cannot make `remove_up_to_ack` panic (`len_bytes -=` cannot underflow). -/
theorem any_ack_is_safe (s : Segments) (now ackNr : Nat) (sackBytes : Option (List Nat)) (h : SInv s) (hu : s.sndUna < 65536) :
    ∃ s' r, s.removeUpToAck now ackNr (sackBytes.map Sack.deserialize) = some (s', r) ∧ SInv s' ∧ s'.sndUna < 65536 :=
  let ⟨s', r, _, h1, hk, _⟩ := removeUpToAck_ok s now ackNr _ h hu
  ⟨s', r, h1, hk.inv, hk.una_lt⟩

/-- **Any data/FIN packet at any offset** leaves the reassembly queue consistent, never reports the
internal `BugAssemblerMissingSlot`, and `flush` cannot panic afterwards. -/
theorem any_arrival_is_safe (r : Rx) (ty : Nat) (payload : List Nat) (off : Nat) (h : C04.RxInv r) :
    ∃ r' ws, r.addRemove ty payload off = some (r', (r.ooq.addRemove ty payload off).2, ws) ∧ C04.RxInv r' ∧
      (r.ooq.addRemove ty payload off).2 ≠ .bugMissingSlot :=
  let ⟨r', ws, h1, h2, _⟩ := C04.addRemove_ok r ty payload off h
  ⟨r', ws, h1, h2, (addRemove_inv r.ooq ty payload off h.ooq).2⟩

/-- The only other `Bug*` the reassembly path can return is for a packet type other than DATA/FIN, which
the connection never passes to it (`process_incoming_message` calls `add_remove` only in its `ST_DATA`
and `ST_FIN` arms). -/
theorem arrival_bug_only_for_foreign_types (q : Ooq) (ty : Nat) (payload : List Nat) (off : Nat)
    (hty : ty = Gen.TYPE_ST_DATA ∨ ty = Gen.TYPE_ST_FIN) : (q.addRemove ty payload off).2 ≠ .bugInvalidMessage := by
  have hs := classify_spec q ty payload off
  unfold Ooq.addRemove
  cases hc : q.classify ty payload off <;> rw [hc] at hs <;> intro h <;> cases h
  rcases hty with h | h
  · exact hs.1 h
  · exact hs.2 h

/-- Sending never panics on a consistent queue: `iter_mut_for_sending` (`checked_sub().unwrap()`) and
both probe pops (`-=` underflow) are safe. -/
theorem send_side_iteration_safe (s : Segments) (start : Option Nat) (h : SInv s) :
    (s.iterForSending start).isSome ∧ (∀ q, (s.popMtuProbe q).isSome) ∧ (∀ t m, (s.popExpiredMtuProbe t m).isSome) := by
  refine ⟨?_, ?_, ?_⟩
  · obtain ⟨vs, hv, _⟩ := iterForSending_ok s start h; simp [hv]
  · intro q; obtain ⟨s', b, hv, _⟩ := popMtuProbe_ok s q h; simp [hv]
  · intro t m; obtain ⟨s', r, hv, _⟩ := popExpiredMtuProbe_ok s t m h; simp [hv]

/-- Packets illegal in the current state never produce a `Bug*` error in the transition table, except in
`SynReceived` — which is left before any packet is read (the SYN-ACK is sent, or the poll returns Pending,
before `process_all_incoming_messages`). -/
theorem table_never_bugs (v : VSock) (hdr : Header) (hs : v.state ≠ .synReceived) :
    ∀ e v', v.stateGate hdr = .fail e v' → e = .stResetReceived := by
  intro e v' hg
  obtain ⟨_, _, _, hp⟩ | ⟨_, _, _, _, hfail⟩ := Lemmas.VSock.stateGate_ok v hdr
  · rw [hp] at hg; cases hg
  · exact (hfail e v' hg).resolve_right hs

end UtpVerif.Props.C10
