import UtpVerif.Lemmas.Sock
/-!
# C12 — concurrent connections on one socket are isolated and bounded

Theorems about the dispatcher model (`Model/Sock.lean`), for every sequence of events `select!` may deliver
(acceptors, control requests, datagrams with any bytes from any address, idle wake-ups), every limit, every
supply of random numbers and every liveness of requesters: all quantifiers are unbounded.
-/
namespace UtpVerif.Props.C12
open UtpVerif.Model UtpVerif.Model.Disp UtpVerif.Gen

/-- the dispatcher after any sequence of loop iterations -/
def run (d : Disp) (evs : List Event) : Disp := evs.foldl (fun d ev => (d.runOnce ev).1) d

theorem runOnce_inv {m : Nat} (d : Disp) (ev : Event) (h : TInv m d) : TInv m (d.runOnce ev).1 := by
  obtain ⟨R, ho, hR⟩ := runOnce_outcome d ev
  have h := (cleanupAcceptQueue_spec d).1.table.inv h
  rw [hR]
  cases ho with
  | quiet hq _ => exact hq.table.inv h
  | shutdown k | dead k => exact h.removeKey k
  | delivered => exact h

theorem run_inv {m : Nat} (d : Disp) (evs : List Event) (h : TInv m d) : TInv m (run d evs) :=
  List.foldlRecOn evs _ h fun d h ev _ => runOnce_inv d ev h

/-- A fresh dispatcher (what `new_with_opts_and_dispatcher` builds): any limit, any random supply, any flags. -/
def fresh (d : Disp) : Prop := d.streams = []

theorem fresh_inv (d : Disp) (h : fresh d) : TInv d.maxActive d := by
  unfold fresh at h
  exact ⟨by simp [keys, h], by simp [h], rfl⟩

/-- **The number of live connections never exceeds the configured limit, and connection ids in use between
one address pair are unique** — after any number and order of events. -/
theorem limit_and_unique_keys_always (d : Disp) (hf : fresh d) (evs : List Event) :
    (run d evs).streams.length ≤ d.maxActive ∧ (run d evs).keys.Nodup := by
  have h := run_inv d evs (fresh_inv d hf)
  exact ⟨by have := h.limit; rw [h.max] at this; exact this, h.nodup⟩

/-- **A datagram is only ever delivered to the connection whose peer address and connection id it names**:
every delivery made in a loop iteration is of the datagram `select!` received, to the table entry under
(its source address, its connection id). -/
theorem delivered_only_to_named_connection (d : Disp) (ev : Event) (k : Key) (h : Header)
    (hd : Eff.delivered k h ∈ (d.runOnce ev).2) :
    ∃ bytes payload, ev = .datagram k.addr bytes ∧ Message.deserialize bytes = some (h, payload) ∧
      k.id = h.connId ∧ d.cleanupAcceptQueue.1.hasKey k = true := by
  obtain ⟨R, ho, hR⟩ := runOnce_outcome d ev
  rw [hR] at hd
  rcases List.mem_append.1 hd with hd | hd
  · exact nomatch (cleanupAcceptQueue_spec d).1.quiet _ hd
  · cases ho with
    | quiet hq _ => exact nomatch hq.quiet _ hd
    | shutdown | dead => cases hd
    | delivered k' hev hdes hid hk =>
      cases List.mem_singleton.1 hd
      exact ⟨_, _, hev, hdes, hid, hk⟩

/-- **Attempts beyond the limit, and everything else the dispatcher does, never evict an existing
connection**: an entry (key ↦ connection instance) leaves the table in a loop iteration only because that
iteration processed the `Shutdown` request of THAT SAME instance (sent when the connection's task ends; or an
untagged one, which only the verification hook sends), or because a datagram for exactly that key found the
connection's task gone. In particular the late `Shutdown` of an earlier connection that used the same key is
ignored (D20). -/
theorem no_eviction {m : Nat} (d : Disp) (hi : TInv m d) (ev : Event) (x : Key × Nat) (hx : x ∈ d.streams) :
    x ∈ (d.runOnce ev).1.streams ∨ ev = .control (.shutdown x.1 none) ∨ ev = .control (.shutdown x.1 (some x.2)) ∨
      (∃ bytes h p, ev = .datagram x.1.addr bytes ∧ Message.deserialize bytes = some (h, p) ∧ h.connId = x.1.id ∧
        x.2 ∈ d.cleanupAcceptQueue.1.deadStreams) := by
  obtain ⟨R, ho, hR⟩ := runOnce_outcome d ev
  have hx := (cleanupAcceptQueue_spec d).1.table.keeps hx
  have hinst : d.cleanupAcceptQueue.1.instOf x.1 = some x.2 := by
    simp [instOf, find_of_nodup_keys ((cleanupAcceptQueue_spec d).1.table.inv hi).nodup hx]
  rw [hR]
  generalize d.cleanupAcceptQueue.1 = dc at *
  have other {k} (hk : x.1 ≠ k) : x ∈ (dc.removeKey k).streams := List.mem_filter.2 ⟨hx, by simpa using hk⟩
  cases ho with
  | quiet hq _ => exact .inl (hq.table.keeps hx)
  | delivered => exact .inl hx
  | shutdown k o hev ho =>
    by_cases hk : x.1 = k
    · subst hk hev
      rcases ho with rfl | ho
      · exact .inr (.inl rfl)
      · exact .inr (.inr (.inl (by rw [← ho, hinst])))
    · exact .inl (other hk)
  | dead k hev hdes hid hdead =>
    by_cases hk : x.1 = k
    · subst hk
      exact .inr (.inr (.inr ⟨_, _, _, hev, hdes, hid, by simpa [hinst] using hdead⟩))
    · exact .inl (other hk)

/-- A connect() attempt beyond the limit fails with `TooManyActiveConnections` and changes nothing. -/
theorem connect_beyond_limit_fails (d : Disp) (addr token : Nat) (h : d.streamsFull = true) :
    d.onControl (.connectRequest addr token) = (d, [.connectErr token .tooMany]) := by
  simp [onControl, h]

/-- A SYN-ACK that arrives while the table is full is dropped (the connect keeps waiting), a SYN is cached
or refused: neither touches the table. -/
theorem full_table_untouched_by_handshakes (d : Disp) (addr : Nat) (h : Header) (hf : d.streamsFull = true) :
    (d.onMaybeConnectAck addr h).1 = d ∧ (d.onSyn addr h).1.streams = d.streams :=
  ⟨by simp [onMaybeConnectAck, hf], (onSyn_spec d addr h).1.table.full hf⟩

/-- **The late Shutdown of an earlier connection does not touch its successor** (D20): a `Shutdown` tagged with
an instance that is not the one registered under the key changes nothing. -/
theorem stale_shutdown_ignored (d : Disp) (k : Key) (old : Nat) (h : d.instOf k ≠ some old) :
    d.onControl (.shutdown k (some old)) = (d, []) := by
  simp [onControl, h]

theorem nextFreeConnIdLoop_exhausted (fuel : Nat) (d : Disp) (addr : Nat) (hid : d.nextConnId < 65536)
    (h : (nextFreeConnIdLoop fuel d addr).hasKey ⟨addr, (nextFreeConnIdLoop fuel d addr).nextConnId⟩ = true) :
    ∀ i < fuel, d.hasKey ⟨addr, w16 (d.nextConnId + 2 * i)⟩ = true := by
  fun_induction nextFreeConnIdLoop fuel d addr with
  | case1 => exact fun i hi => absurd hi (Nat.not_lt_zero i)
  | case2 fuel d addr hk ih =>
    intro i hi
    cases i with
    | zero => rwa [Nat.mul_zero, Nat.add_zero, w16, Nat.mod_eq_of_lt hid]
    | succ i =>
      have := ih (Nat.mod_lt _ (by decide)) h i (Nat.lt_of_succ_lt_succ hi)
      rwa [w16, w16, Nat.mod_add_mod, Nat.add_assoc, Nat.add_comm 2, ← Nat.mul_succ] at this
  | case3 fuel d addr hk => exact absurd h hk

/-- **The connection id chosen for a new outgoing connect is not in use with that peer**, provided fewer than
32768 connections are live (then the bounded loop finds a free id of the required parity; with 32768 live
same-parity ids for one peer the real loop would not terminate - unreachable below that many connections). -/
theorem next_free_conn_id_is_free (d : Disp) (addr : Nat) (hid : d.nextConnId < 65536) (hlim : d.streams.length < 32768) :
    (d.getNextFreeConnId addr).hasKey { addr := addr, id := (d.getNextFreeConnId addr).nextConnId } = false ∧
    (d.getNextFreeConnId addr).streams = d.streams := by
  refine ⟨?_, by obtain ⟨n, hn⟩ := getNextFreeConnId_frame d addr; rw [hn]⟩
  -- otherwise all 32768 ids of that parity are keys of `addr`: more distinct keys than connections
  refine Bool.eq_false_iff.2 fun h => ?_
  have hall := nextFreeConnIdLoop_exhausted 32768 d addr hid h
  let ks := (List.range 32768).map fun i => (⟨addr, w16 (d.nextConnId + 2 * i)⟩ : Key)
  have hnd : ks.Nodup := List.pairwise_map.2 <| List.pairwise_lt_range.imp_of_mem fun _ hb hab he => by
    rw [List.mem_range] at hb
    simp only [Key.mk.injEq, true_and, w16] at he
    omega   -- `a < b < 32768` gives `0 < 2 (b - a) < 65536`, so `n + 2a` and `n + 2b` differ mod 65536
  have hsub : ks ⊆ d.keys := fun k hk => by
    obtain ⟨i, hi, rfl⟩ := List.mem_map.1 hk
    simpa [Disp.hasKey] using hall i (List.mem_range.1 hi)
  have := hnd.length_le_of_subset hsub
  simp only [ks, List.length_map, List.length_range, keys] at this
  exact Nat.not_le.2 hlim this

/-! ### Non-vacuity: a concrete history in which two peers connect with the same connection id -/

def syn (cid seq : Nat) : List Nat := Disp.ser (Disp.synHeader cid seq)

example :
    let d0 : Disp := { maxActive := 2, accChan := [{ id := 1 }, { id := 2 }, { id := 3 }] }
    let d := run d0 [.datagram 7 (syn 5 100), .datagram 8 (syn 5 200), .datagram 9 (syn 5 300)]
    d.keys = [{ addr := 7, id := 6 }, { addr := 8, id := 6 }] ∧ d.syns.length = 1 := by
  decide +kernel

end UtpVerif.Props.C12
