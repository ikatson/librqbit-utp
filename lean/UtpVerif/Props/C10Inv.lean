import UtpVerif.Model.VSock
import UtpVerif.Lemmas.Segments
import UtpVerif.Props.C09
import UtpVerif.Lemmas.VSockRecv
/-!
# C10Inv — a connection-level invariant: `last_sent_seq_nr` stays inside the segment queue

`LInv` ties the connection's `last_sent_seq_nr` to the queue of unacknowledged segments:
`snd_una − 1 ≤ last_sent_seq_nr ≤ snd_una + len` (as wrap-safe 16-bit distances), together with the queue's own
byte-accounting invariant `SInv`. The theorems show, for EVERY packet and every queue of packets, every
acknowledgement number and selective-ACK bitmap, and every outcome of the transport:

* acknowledgement processing is **total** under the invariant - `remove_up_to_ack` does not underflow and
  `calc_pipe` stays in range, i.e. the two internal panics of that half of `process_incoming_message` are
  unreachable (`ackPart_ok`) - and re-establishes the invariant (the D17 clamp is what makes the lower bound hold);
* the payload half touches neither the queue nor `last_sent_seq_nr` (`payloadPart_frame`);
* the state table touches the queue in one place: the remote's FIN accepted in Established discards the never-sent
  tail (`discard_unsent`, the D22 fix); the invariant's `tail` field - the never-sent tail lies entirely beyond
  `last_sent_seq_nr` - is what makes that safe (`stateGate_linv`, `discardUnsent_ok`);
* hence `process_incoming_message` and the whole receive loop preserve it (`recvLoop_linv`);
* `send_data!`, the first-transmission loop and the recovery retransmission loop preserve it
  (`sendData_linv`, `newDataLoop_linv`, `recoveryLoop_linv`);
* so does the segmentation loop, the bound on the number of queued segments included: it stops at `MAX_TX_SEGMENTS`
  (`segmentLoop_linv`, D25);
* it holds when a connection is created (`linv_fresh`).

The FIN paths (`maybe_send_fin`, RTO of the FIN) need the relation between the FIN's number and `snd_una + len`:
`Props/C17Fin`. Not covered (the lockstep covers them): the probe pops, `maybe_send_ack`, `maybe_send_syn_ack` and the glue of
`poll` between the phases.
How the proofs go: what a phase of `poll` does to the connection is read off its characterisation in
`Lemmas/VSock*.lean`; what that does to the invariant is one of three moves of four numbers (`LNum`); the modular
arithmetic is behind `off u d` ("the number `d` steps after `u`") and stays in the first block of this file.
-/
namespace UtpVerif.Props.C10Inv
open UtpVerif.Model UtpVerif.Lemmas.Segments UtpVerif.Lemmas.VSock UtpVerif.Model.VSock UtpVerif.Model.Segments UtpVerif.Props.C09

/-- the sequence number `d` steps after `u` (negative `d`: before) -/
def off (u : Nat) (d : Int) : Nat := (((u : Int) + d) % 65536).toNat

theorem off_lt (u : Nat) (d : Int) : off u d < 65536 := by unfold off; omega
theorem off_off (u : Nat) (d e : Int) : off (off u d) e = off u (d + e) := by
  unfold off
  rw [Int.toNat_of_nonneg (Int.emod_nonneg _ (by decide)), Int.emod_add_emod, Int.add_assoc]
-- (the cast of `(u + k) % 65536` computes to `(↑u + ↑k) % 65536`)
theorem off_nat (u k : Nat) : off u k = (u + k) % 65536 := Int.toNat_natCast ((u + k) % 65536)
theorem off_zero (u : Nat) (hu : u < 65536) : off u 0 = u := (off_nat u 0).trans (Nat.mod_eq_of_lt hu)
theorem wadd_mod_off (u n : Nat) : wadd u (n % 65536) = off u n := by rw [off_nat, wadd, Nat.add_mod_mod]
theorem wsub_one_off (u : Nat) (hu : u < 65536) : wsub u 1 = off u (-1) := by unfold wsub off; omega

/-- `snd_una + n` is not moved by an acknowledgement -/
theorem off_advance (u k n : Nat) (hk : k ≤ n) : off (advance u k) ((n - k : Nat) : Int) = off u (n : Int) := by
  rw [advance, ← off_nat, off_off]; congr 1; omega

theorem seqSub_off_off (u : Nat) (d e : Int) (h : -32767 ≤ d - e ∧ d - e ≤ 32767) :
    seqSub (off u d) (off u e) = d - e :=
  seqSub_eq_of_congr (off_lt u d) (off_lt u e) (by rw [wrap_tolerance_value]; omega) (by unfold off; omega)

theorem seqSub_off (u : Nat) (d : Int) (hu : u < 65536) (hd : -32767 ≤ d ∧ d ≤ 32767) : seqSub (off u d) u = d := by
  have := seqSub_off_off u d 0 (by omega)
  rwa [off_zero u hu, Int.sub_zero] at this

theorem eq_off_of_seqSub (a u : Nat) (ha : a < 65536) (hu : u < 65536) : a = off u (seqSub a u) := by
  have := seqSub_congr a u ha hu
  unfold off; omega

theorem clamp_off (u : Nat) (d k : Int) (h : -32768 ≤ d - k ∧ d - k ≤ 32766) :
    clampLastSent (off u d) (off u k) = off u (max d (k - 1)) := by
  unfold clampLastSent
  rw [wsub_one_off _ (off_lt _ _), off_off, seqSub_off_off u d _ (by omega)]
  split <;> congr 1 <;> omega

theorem clamp_range (ls u len k : Nat) (hls : ls < 65536) (hu : u < 65536) (hlen : len ≤ 16384) (hk : k ≤ len)
    (hlo : -1 ≤ seqSub ls u) (hhi : seqSub ls u ≤ len) :
    VSock.clampLastSent ls (advance u k) < 65536 ∧
    seqSub (VSock.clampLastSent ls (advance u k)) (advance u k) = max (seqSub ls u - k) (-1) := by
  have hls' := eq_off_of_seqSub ls u hls hu
  generalize seqSub ls u = d at *
  rw [hls', advance, ← off_nat, clamp_off u d k (by omega), seqSub_off_off u _ k (by omega)]
  exact ⟨off_lt _ _, by omega⟩

/-- Connection-level invariant tying `last_sent_seq_nr` to the segment queue: it is never more than one below the
first unacknowledged number (the D17 clamp) and never beyond the last queued number + 1 (the FIN's number). -/
structure LInv (v : VSock) : Prop where
  sinv : SInv v.segs
  una : v.segs.sndUna < 65536
  ls : v.lastSentSeqNr < 65536
  len : v.segs.segs.length ≤ 16384   -- `MAX_TX_SEGMENTS`: see "The cap on the number of queued segments" below
  lo : -1 ≤ seqSub v.lastSentSeqNr v.segs.sndUna
  hi : seqSub v.lastSentSeqNr v.segs.sndUna ≤ v.segs.segs.length
  /-- the never-sent tail of the queue lies entirely beyond `last_sent_seq_nr` (what `discard_unsent` relies on) -/
  tail : seqSub v.lastSentSeqNr v.segs.sndUna + trailingUnsent v.segs.segs ≤ v.segs.segs.length

/-- The invariant in numbers: `u = snd_una`, `ls = last_sent_seq_nr`, `n` queued segments, `t` of them the never-sent tail;
`last_sent_seq_nr` points into the transmitted prefix, `-1 ≤ ls - u ≤ n - t`. -/
structure LNum (u ls n t : Nat) : Prop where
  una_lt : u < 65536
  ls_lt : ls < 65536
  len_le : n ≤ 16384
  lo : -1 ≤ seqSub ls u
  tail : seqSub ls u + t ≤ n

theorem LNum.hi {u ls n t : Nat} (h : LNum u ls n t) : seqSub ls u ≤ n :=
  Int.le_trans (Int.le_add_of_nonneg_right (Int.natCast_nonneg t)) h.tail

theorem LInv.num {v : VSock} (h : LInv v) :
    LNum v.segs.sndUna v.lastSentSeqNr v.segs.segs.length (trailingUnsent v.segs.segs) :=
  ⟨h.una, h.ls, h.len, h.lo, h.tail⟩

theorem LNum.linv {u ls n t : Nat} (h : LNum u ls n t) {w : VSock} (hS : SInv w.segs) (hu : w.segs.sndUna = u)
    (hl : w.lastSentSeqNr = ls) (hn : w.segs.segs.length = n) (ht : trailingUnsent w.segs.segs = t) : LInv w := by
  subst hu hl hn ht
  exact ⟨hS, h.una_lt, h.ls_lt, h.len_le, h.lo, h.hi, h.tail⟩

theorem LNum.of_off {u n t : Nat} {d : Int} (hu : u < 65536) (hn : n ≤ 16384) (hd : -1 ≤ d) (hdt : d + t ≤ n) :
    LNum u (off u d) n t := by
  have := seqSub_off u d hu (by omega)
  exact ⟨hu, off_lt _ _, hn, by rw [this]; exact hd, by rw [this]; exact hdt⟩

/-- the transmitted prefix `n - t` may grow -/
theorem LNum.resize {u ls n t n' t' : Nat} (h : LNum u ls n t) (hn : n' ≤ 16384) (ht : (n : Int) - t ≤ n' - t') :
    LNum u ls n' t' := by
  obtain ⟨h1, h2, _, h4, h5⟩ := h
  refine ⟨h1, h2, hn, h4, ?_⟩
  generalize seqSub ls u = d at *
  omega

/-- acknowledging `k` segments, then the clamp (D17) -/
theorem LNum.ack {u ls n t k : Nat} (h : LNum u ls n t) (hk : k ≤ n) :
    LNum (advance u k) (clampLastSent ls (advance u k)) (n - k) (min t (n - k)) := by
  have hlo := h.lo
  have htl := h.tail
  obtain ⟨h1, h2⟩ := clamp_range ls u n k h.ls_lt h.una_lt h.len_le hk h.lo h.hi
  have hlen := h.len_le
  generalize seqSub ls u = d at *
  exact ⟨Nat.mod_lt _ (by omega), h1, by omega, by rw [h2]; omega, by rw [h2]; omega⟩

theorem shape_length (a b : Segments) (h : shape a = shape b) : a.segs.length = b.segs.length := by
  have := congrArg List.length h
  simpa [shape] using this

theorem shape_drop_length (a b : Segments) (k : Nat) (h : shape a = (shape b).drop k) :
    a.segs.length = b.segs.length - k := by
  have := congrArg List.length h
  simpa [shape] using this

/-- `Recovery::on_ack` never fails when `last_sent_seq_nr` lies within the queue, and leaves the queue's shape,
`snd_una` and invariant alone (it only marks segments lost / recomputes the pipe). -/
theorem recovery_onAck_ok (r : Recovery) (h : Header) (segs : Segments) (ls : Nat) (cc : Cc) (now rtt : Nat)
    (hS : SInv segs) (hg : (seqSub ls segs.sndUna).toNat ≤ segs.segs.length) :
    ∃ r' segs' cc', r.onAck h segs ls cc now rtt = some (r', segs', cc') ∧ SInv segs' ∧
      segs'.sndUna = segs.sndUna ∧ segs'.segs.length = segs.segs.length ∧
      trailingUnsent segs'.segs = trailingUnsent segs.segs := by
  unfold Recovery.onAck
  dsimp only
  -- every branch returns `segs` itself, but for entering recovery, which returns what `calc_pipe` made of it
  split
  · split <;> exact ⟨_, _, _, rfl, hS, rfl, rfl, rfl⟩
  · split
    · exact ⟨_, _, _, rfl, hS, rfl, rfl, rfl⟩
    · rename_i first _
      obtain ⟨s', p, hcp, hq⟩ := calcPipe_queue segs (wsub first 1) ls rtt now hS hg
      rw [hcp]
      -- (how the duplicates were counted, by SACK or not, does not matter)
      generalize (if (r.receiverSupportsSack || h.sack.isSome) = true then _ else _ : Nat × _) = dup
      split
      · exact ⟨_, _, _, rfl, hS, rfl, rfl, rfl⟩
      · exact ⟨_, _, _, rfl, hq⟩
  · split <;> exact ⟨_, _, _, rfl, hS, rfl, rfl, rfl⟩

theorem ackPart_queue (v : VSock) (c : Ctx) (msg : Msg) (h : LInv v) :
    ∃ v1 c1 res k, v.ackPart c msg = .ok (v1, c1, res) ∧ LInv v1 ∧ v1.state = v.state ∧ k ≤ v.segs.segs.length ∧
      v1.segs.sndUna = advance v.segs.sndUna k ∧ v1.segs.segs.length = v.segs.segs.length - k ∧
      trailingUnsent v1.segs.segs = min (trailingUnsent v.segs.segs) (v.segs.segs.length - k) := by
  obtain ⟨s', r, k, hrm, hS', hk, hu, hn, ht⟩ :=
    removeUpToAck_queue v.segs v.pollNow msg.h.ackNr msg.h.sack h.sinv h.una
  have hnum := h.num.ack hk
  rw [← ht, ← hn, ← hu] at hnum
  have hon := fun cc rtt => recovery_onAck_ok v.recovery msg.h s' (clampLastSent v.lastSentSeqNr s'.sndUna) cc
    v.pollNow rtt hS' (Int.toNat_le.mpr hnum.hi)
  have hc := ackPart_cases v c msg
  cases hr : v.ackPart c msg with
  | error f =>
    rw [hr, hrm] at hc
    obtain hc | ⟨_, _, cc, rtt, hc, hnone⟩ := hc <;> cases hc
    obtain ⟨_, _, _, hsome, _⟩ := hon cc rtt
    cases hsome.symm.trans hnone
  | ok x =>
    obtain ⟨v1, c1, res⟩ := x
    rw [hr, hrm] at hc
    obtain ⟨_, _, _, _, _, cc, rtt, _, hc, hsome, rfl⟩ := hc
    cases hc
    obtain ⟨_, _, _, hsome', hS2, hu2, hn2, ht2⟩ := hon cc rtt
    cases hsome'.symm.trans hsome
    -- (`dsimp only` and not `rfl`: unification would unfold `clampLastSent` down to 16-bit arithmetic on literals)
    exact ⟨_, c1, _, k, rfl, hnum.linv hS2 hu2 (by dsimp only) hn2 ht2, rfl, hk, hu2.trans hu, hn2.trans hn,
      ht2.trans ht⟩

/-- **Acknowledgement processing is total under the invariant and re-establishes it**: for ANY header (any
`ack_nr`, any selective ACK) `remove_up_to_ack` does not underflow, `calc_pipe` stays in range - the two internal
panics of this half of `process_incoming_message` are unreachable - and `last_sent_seq_nr` ends up within
`[snd_una - 1, snd_una + len]` again. -/
theorem ackPart_ok (v : VSock) (c : Ctx) (msg : Msg) (h : LInv v) :
    ∃ v1 c1 res, v.ackPart c msg = .ok (v1, c1, res) ∧ LInv v1 :=
  have ⟨v1, c1, res, _, he, h1, _⟩ := ackPart_queue v c msg h
  ⟨v1, c1, res, he, h1⟩

/-- …and an error can only come from the payload half (a zero-length ST_DATA, a failing transport): the two
internal panics of acknowledgement processing are unreachable. -/
theorem processAccepted_error_from_payload (v : VSock) (c : Ctx) (msg : Msg) (p : Bool) (e : Fail)
    (h : LInv v) (hp : v.processAccepted c msg p = .error e) :
    ∃ v1 c1 res, v.ackPart c msg = .ok (v1, c1, res) ∧ v1.payloadPart c1 msg res p = .error e := by
  obtain ⟨v1, c1, res, ha, _⟩ := ackPart_ok v c msg h
  unfold processAccepted at hp
  rw [ha] at hp
  exact ⟨v1, c1, res, ha, hp⟩

theorem sendControlPacket_frame (v : VSock) (c : Ctx) (h : Header) (v' : VSock) (c' : Ctx) (b : Bool)
    (hs : v.sendControlPacket c h = .ok (v', c', b)) : v'.segs = v.segs ∧ v'.lastSentSeqNr = v.lastSentSeqNr :=
  have := (Lemmas.VSock.sendControlPacket_frame hs).1
  ⟨(congrArg VSock.segs this :), (congrArg VSock.lastSentSeqNr this :)⟩

/-- The payload half of `process_incoming_message` never touches the segment queue or `last_sent_seq_nr`. -/
theorem payloadPart_frame (v : VSock) (c : Ctx) (msg : Msg) (res : OnAckResult) (p : Bool) (v' : VSock) (c' : Ctx)
    (r : OnAckResult) (h : v.payloadPart c msg res p = .ok (v', c', r)) :
    v'.segs = v.segs ∧ v'.lastSentSeqNr = v.lastSentSeqNr :=
  have := (payloadPart_ok h).1
  ⟨(congrArg VSock.segs this :), (congrArg VSock.lastSentSeqNr this :)⟩

theorem LInv.congr {v v' : VSock} (h : LInv v) (e1 : v'.segs = v.segs) (e2 : v'.lastSentSeqNr = v.lastSentSeqNr) : LInv v' :=
  h.num.linv (e1 ▸ h.sinv) (e1 ▸ rfl) e2 (e1 ▸ rfl) (e1 ▸ rfl)

theorem LInv.at_off {v w : VSock} (h : LInv v) {d : Int} (hd : -1 ≤ d)
    (hdt : d + trailingUnsent v.segs.segs ≤ v.segs.segs.length)
    (e1 : w.segs = v.segs) (e2 : w.lastSentSeqNr = off v.segs.sndUna d) : LInv w :=
  (LNum.of_off h.una h.len hd hdt).linv (e1 ▸ h.sinv) (e1 ▸ rfl) e2 (e1 ▸ rfl) (e1 ▸ rfl)

/-- The state table touches the queue in one place only: when the remote's FIN is accepted in Established the
never-sent tail is discarded (D22); the invariant's `tail` field is what makes that safe. -/
theorem stateGate_linv (v : VSock) (hdr : Header) (h : LInv v) : LInv (v.stateGate hdr).vsock := by
  obtain ⟨_, _, _, hg⟩ | ⟨_, _, _, hg, _⟩ := stateGate_ok v hdr
  · obtain ⟨hS, hu, _, _, hlen, htu⟩ := discardUnsent_ok v.segs h.sinv
    have hle := tu_le v.segs.segs
    rw [hg]
    exact (h.num.resize (by have := h.len; omega) (by omega)).linv hS hu rfl hlen htu
  · rw [hg]; exact h.congr rfl rfl

theorem processIncomingMessage_linv (v : VSock) (c : Ctx) (msg : Msg) (v' : VSock) (c' : Ctx) (r : OnAckResult)
    (h : LInv v) (hp : v.processIncomingMessage c msg = .ok (v', c', r)) : LInv v' := by
  have hf := stateGate_linv v msg.h h
  obtain rfl | ⟨_, _, _, ha, hp⟩ := processIncomingMessage_ok hp
  · exact hf
  · obtain ⟨_, _, _, ha', h1⟩ := ackPart_ok _ c msg hf
    cases ha.symm.trans ha'
    obtain ⟨e1, e2⟩ := payloadPart_frame _ _ _ _ _ _ _ _ hp
    exact h1.congr e1 e2

/-- **Every queue of incoming packets keeps the invariant**: the receive loop of `process_all_incoming_messages`,
for any number of any packets. -/
theorem recvLoop_linv (fuel : Nat) (v : VSock) (c : Ctx) (acc : OnAckResult) (v' : VSock) (c' : Ctx) (acc' : OnAckResult)
    (how : RecvLoop) (h : LInv v) (hp : recvLoop fuel v c acc = .ok (v', c', acc', how)) : LInv v' :=
  recvLoop_preserves (processIncomingMessage_linv _ _ _ _ _ _) (·.congr rfl rfl) (·.congr rfl rfl) h hp

/-- The invariant holds when a connection is created: empty queue, `last_sent_seq_nr = seq_nr - 1`
(non-vacuity of everything above; established connections start exactly like this). -/
theorem linv_fresh (v : VSock) (u : Nat) (hu : u < 65536) (hs : v.segs = Segments.new u)
    (hl : v.lastSentSeqNr = wsub u 1) : LInv v := by
  have h : LNum u (off u (-1)) 0 0 := .of_off hu (by omega) (by omega) (by omega)
  rw [← wsub_one_off u hu] at h
  exact h.linv (hs ▸ new_inv u) (hs ▸ rfl) hl (hs ▸ rfl) (hs ▸ rfl)

theorem onSent_tail (s : Segments) (idx now : Nat) (hi : idx < s.segs.length) :
    trailingUnsent (s.onSent idx now).segs ≤ trailingUnsent s.segs ∧
    idx + 1 + trailingUnsent (s.onSent idx now).segs ≤ s.segs.length :=
  tu_onSent s idx now hi

/-- what `iter_mut_for_sending` guarantees about a view (`iterForSending_ok`), as far as this invariant needs it -/
def ValidView (s : Segments) (w : SegView) : Prop := w.idx < s.segs.length ∧ w.seqNr = wadd s.sndUna (w.idx % 65536)

theorem validView_of_iter (s : Segments) (start : Option Nat) (h : SInv s) (vs : List SegView)
    (hv : s.iterForSending start = some vs) : ∀ w ∈ vs, ValidView s w := by
  obtain ⟨vs', hvs, hall⟩ := iterForSending_ok s start h
  cases hv.symm.trans hvs
  exact fun w hw => ⟨(hall w hw).2.1, (hall w hw).2.2.2.2.2⟩

/-- (the never-sent tail begins behind the segment) -/
theorem LInv.sent {v w : VSock} {view : SegView} (h : LInv v) (hview : ValidView v.segs view) (now : Nat)
    (e1 : w.segs = v.segs.onSent view.idx now)
    (e2 : w.lastSentSeqNr = view.seqNr ∨ w.lastSentSeqNr = v.lastSentSeqNr) : LInv w := by
  obtain ⟨hS, hu, hn, ht, hit⟩ := onSent_queue v.segs view.idx now h.sinv hview.1
  have hl := h.len
  rw [← e1] at hS hu hn ht hit
  suffices LNum v.segs.sndUna w.lastSentSeqNr v.segs.segs.length (trailingUnsent w.segs.segs) from
    this.linv hS hu rfl hn rfl
  obtain e2 | e2 := e2 <;> rw [e2]
  · rw [hview.2, wadd_mod_off]; exact .of_off h.una hl (by omega) (by omega)
  · exact h.num.resize hl (by omega)

/-- **`send_data!` preserves the invariant** (all three outcomes), and keeps every view of the same pass valid:
a transmission moves `last_sent_seq_nr` only forward, to the number of a queued segment. -/
theorem sendData_linv (v : VSock) (c : Ctx) (hd : Header) (view : SegView) (v' : VSock) (c' : Ctx) (r : DataSend)
    (h : LInv v) (hview : ValidView v.segs view) (hs : v.sendData c hd view = .ok (v', c', r)) :
    LInv v' ∧ ∀ w, ValidView v.segs w → ValidView v'.segs w := by
  obtain ⟨_, _, _, _, _, rfl, _⟩ := sendData_ok hs
  cases r
  · obtain ⟨_, hu, hn, _⟩ := onSent_queue v.segs view.idx c.now h.sinv hview.1
    -- (`dataSent` sets `last_sent_seq_nr := if seqGt view.seqNr v.lastSentSeqNr then view.seqNr else v.lastSentSeqNr`)
    exact ⟨h.sent hview c.now rfl ((Decidable.em _).imp (if_pos ·) (if_neg ·)), fun w hw => ⟨hn ▸ hw.1, hu ▸ hw.2⟩⟩
  · exact ⟨h.congr rfl rfl, fun _ hw => hw⟩
  · exact ⟨h, fun _ hw => hw⟩

/-- (`Q`: whatever else is to be carried along the same pass; `C17Fin.run_inv` carries `FInv` and the state) -/
theorem run_linv {hd : Header} {sent : List SegView} {v v' : VSock} {c c' : Ctx} {Q : VSock → Prop}
    (step : ∀ {s v1 c1 v2 c2 r}, LInv v1 → ValidView v1.segs s → Q v1 → v1.sendData c1 hd s = .ok (v2, c2, r) → Q v2)
    (hr : Run hd (ValidView v.segs) sent v c v' c') (h : LInv v) (hq : Q v) : LInv v' ∧ Q v' :=
  have := hr.preserves (P := fun v1 => (LInv v1 ∧ ∀ w, ValidView v.segs w → ValidView v1.segs w) ∧ Q v1)
    (fun hV hP hs =>
      have ⟨a, b⟩ := sendData_linv _ _ _ _ _ _ _ hP.1.1 (hP.1.2 _ hV) hs
      ⟨⟨a, fun w hw => b w (hP.1.2 w hw)⟩, step hP.1.1 (hP.1.2 _ hV) hP.2 hs⟩) ⟨⟨h, fun _ hw => hw⟩, hq⟩
  ⟨this.1.1, this.2⟩

/-- **The first-transmission loop of `send_tx_queue` preserves the invariant** for every list of valid views. -/
theorem newDataLoop_linv (hd : Header) (views : List SegView) (v : VSock) (c : Ctx) (rem : Nat)
    (v' : VSock) (c' : Ctx) (r : Option (Nat × Nat)) (h : LInv v) (hv : ∀ w ∈ views, ValidView v.segs w)
    (hl : newDataLoop hd views v c rem = .ok (v', c', r)) : LInv v' :=
  have ⟨_, hr, _⟩ := newDataLoop_run hv hl
  (run_linv (Q := fun _ => True) (fun _ _ _ _ => trivial) hr h trivial).1

/-- **…and so does the loss-recovery retransmission loop.** -/
theorem recoveryLoop_linv (hd : Header) (mss : Nat) (views : List SegView) (v : VSock) (c : Ctx) (l : RecLoop)
    (v' : VSock) (c' : Ctx) (l' : RecLoop) (p : Bool) (h : LInv v) (hv : ∀ w ∈ views, ValidView v.segs w)
    (hl : recoveryLoop hd mss views v c l = .ok (v', c', l', p)) : LInv v' :=
  have ⟨_, hr, _⟩ := recoveryLoop_run hv hl
  (run_linv (Q := fun _ => True) (fun _ _ _ _ => trivial) hr h trivial).1

/-! ### The cap on the number of queued segments (D25)

Where `LInv.len` comes from. The buffer size in bytes does not bound the number of queued segments (with Nagle
disabled and one-byte writes a 32 KiB buffer holds 32768 of them), and beyond 32767 outstanding segments the 16-bit
distances the sender computes over its own queue wrap: the segmentation loop stops at `MAX_TX_SEGMENTS` (the D25
repair). The theorems below make `len ≤ 16384` an invariant the loop keeps, and tie the literal to the regenerated
constant. -/

theorem max_tx_segments_value : Gen.MAX_TX_SEGMENTS = 16384 := by decide

/-- every distance the sender computes over its own queue (`last_sent - snd_una ∈ [-1, len]`, `fin - snd_una = len`)
is within the crate's tolerance -/
theorem tx_queue_within_tolerance : Gen.MAX_TX_SEGMENTS + 1 ≤ Gen.WRAP_TOLERANCE := tx_queue_cap_within_tolerance

/-- **The segmentation loop keeps the invariant, including the bound on the queue length.** -/
theorem segmentLoop_linv (fuel : Nat) (v : VSock) (remaining win : Nat) (h : LInv v) :
    LInv (segmentLoop fuel v remaining win).1 := by
  refine segmentLoop_preserves (·.congr rfl rfl) (fun {v p pr} hcap h => ?_) h
  obtain ⟨hS, hu, hn, hta⟩ := enqueue_queue v.segs p pr h.sinv
  have := max_tx_segments_value
  exact (h.num.resize (n' := v.segs.segs.length + 1) (t' := trailingUnsent (v.segs.enqueue p pr).segs) (by omega) (by omega)).linv
    hS hu rfl hn rfl

/-- the loop never grows the queue beyond the cap -/
theorem segmentLoop_len_bound (fuel : Nat) (v : VSock) (remaining win : Nat) :
    (segmentLoop fuel v remaining win).1.segs.segs.length ≤ max v.segs.segs.length Gen.MAX_TX_SEGMENTS :=
  segmentLoop_preserves (P := fun w => w.segs.segs.length ≤ max v.segs.segs.length Gen.MAX_TX_SEGMENTS) id
    (fun {w _ _} hcap _ => by
      show (w.segs.segs ++ [_]).length ≤ _
      rw [List.length_append, List.length_singleton]; omega)
    (Nat.le_max_left _ _)

end UtpVerif.Props.C10Inv
