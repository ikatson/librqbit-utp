import UtpVerif.Lemmas.VSock
import UtpVerif.Lemmas.Rx
import UtpVerif.Lemmas.Segments
/-!
# C02 — progress: no stall, no lost wake-up (the logic; the runtime's part is assumed)

Liveness over an unbounded fault space needs the runtime ("a woken task is polled; an armed Sleep
fires"), which the model cannot exhibit.  What is proved is every *obligation of the code*: each state in
which something is outstanding has a timer armed, the re-poll request covers every armed timer, every
flag the connection task polls is accompanied by a wake of that task, and each useful event makes strict
progress.
-/
namespace UtpVerif.Props.C02
open UtpVerif.Model UtpVerif.Model.VSock UtpVerif.Lemmas.Rx UtpVerif.Lemmas.Segments UtpVerif.Lemmas.VSock

/-- **Data on the wire ⇒ retransmission and inactivity timers armed** (rfc6298 5.1): every accepted
`send_data!` leaves both armed, with the retransmission deadline no later than `now + RTO`. -/
theorem data_sent_arms_timers (v : VSock) (c : Ctx) (h : Header) (view : SegView) (v' : VSock) (c' : Ctx)
    (hs : v.sendData c h view = .ok (v', c', .sent)) :
    (∃ d, v'.timers.retransmit = some d ∧ d ≤ v'.pollNow + v'.rtte.rto) ∧ v'.timers.inactivity.isSome := by
  obtain ⟨_, _, _, _, _, rfl, _⟩ := sendData_ok hs
  obtain ⟨d, hd, hle, _⟩ := arm_keep v.timers.retransmit v.pollNow v.rtte.rto
  exact ⟨⟨d, hd, hle⟩, arm_isSome _ _ _ _⟩

/-- **The re-poll request is the earliest armed protocol timer** (transport writable): it is no later
than any of retransmit / inactivity / delayed-ACK / recovery-pipe / SYN-ACK deadlines. -/
theorem repoll_covers_every_timer (v : VSock) (hp : v.transportPending = false) (d : Nat)
    (hd : v.timers.ackDelay = some d ∨ v.timers.retransmit = some d ∨ v.timers.inactivity = some d ∨
          v.timers.pipeExpiry = some d ∨ v.timers.synAckResend = some d) :
    ∃ t, v.nextTimerToPoll.2 = some t ∧ t ≤ d :=
  nextTimerToPoll_le v hp d (by rcases hd with h | h | h | h | h <;> simp [h])

/-- With a blocked transport the connection still asks to be re-polled for the inactivity deadline. -/
theorem repoll_when_transport_blocked (v : VSock) (hp : v.transportPending = true) :
    v.nextTimerToPoll.2 = v.timers.inactivity := by
  unfold nextTimerToPoll; simp [hp]

/-- **No lost wake-up, writer → connection**: the connection registers its waker exactly when it finds
the ring empty (`split_tx_queue_into_segments`), and then an accepting write (C19
`write_wakes_dispatcher`), a shutdown request and a writer drop each fire it. -/
theorem empty_ring_registers_dispatcher (v : VSock) (c : Ctx) (he : v.tx.ring = []) :
    ∃ v', v.splitTxQueue c = .ok (v', c) ∧ v'.tx.dispatcherWaker = true := by
  unfold splitTxQueue
  simp [he, TxRing.registerDispatcher, pure, Except.pure]

/-- **No lost wake-up, reader → connection**: a read that returns bytes fires the connection's waker if
`flush` registered it (it does so whenever less than one segment of room would be left). -/
theorem read_wakes_dispatcher (r : Rx) (n : Nat) (b : List Nat) (r' : Rx) (ws : List Wake)
    (h : r.pollRead n = (r', .data b, ws)) (hreg : (Rx.readLoop (2 * (r.queue.length + 2) + 1) r n []).1.dispatcherWaker = true) :
    ws = [.dispatcher] := by
  rw [pollRead_eq] at h
  simp only [Prod.mk.injEq] at h
  obtain ⟨_, hres, rfl⟩ := h
  rw [hres, hreg]; rfl

/-- **No lost wake-up, reader → connection (registration half)**: whenever `flush` leaves less than one
segment of room in the reader's queue window (in particular whenever a zero window is about to be
advertised), it has registered the connection's waker - on EVERY call, whether or not anything changed
since the previous one - so the next read that returns bytes (`read_wakes_dispatcher`) re-polls the
connection and the window update goes out. -/
theorem flush_registers_when_window_low (r r' : Rx) (n : Nat) (ws : List Wake)
    (hlow : r.queueWindow - r.ooq.filledFrontBytes < r.maxIncomingPayload)
    (h : r.flush = some (r', n, ws)) : r'.dispatcherWaker = true := by
  obtain ⟨r2, win, woken, (hw : r2.dispatcherWaker = true), rfl⟩ :=
    flush_preserves (I := fun r2 _ => r2.dispatcherWaker = true) (fun _ _ _ h _ _ _ _ _ => h) h
      (by rw [decide_eq_true hlow]; rfl)
  exact hw

/-- **An advertised zero window always comes with a registered wake-up (D21).** If, after `flush`, the room
the connection can advertise is below the wake-up threshold - the connection sets the threshold to its
current segment size right before flushing, and `rx_window()` advertises 0 exactly below that size - then
`flush` has registered the connection's waker with the reader, so the read that re-opens the window re-polls
the connection (`read_wakes_dispatcher`) and the window update goes out at once. (Nothing stored beyond the
in-order front: with a hole in the sequence the peer's retransmission is what polls the connection.) -/
theorem zero_window_means_waker_registered (r r' : Rx) (n : Nat) (ws : List Wake)
    (hinv : OoqInv r.ooq) (hnd : r.readerDropped = false)
    (hfront : r.ooq.lenBytes = r.ooq.filledFrontBytes)
    (h : r.flush = some (r', n, ws))
    (hz : r'.remainingRxWindow < r.maxIncomingPayload) : r'.dispatcherWaker = true := by
  refine flush_registers_when_window_low r r' n ws ?_ h
  -- each hand-over takes the same bytes from the window and from reassembly
  obtain ⟨r2, win, woken, ⟨_, hw, hrd⟩, rfl⟩ := flush_preserves
    (I := fun r2 win => OoqInv r2.ooq ∧ win - r2.ooq.lenBytes = r.queueWindow - r.ooq.lenBytes ∧ r2.readerDropped = false)
    (fun r1 win m ⟨hi, hw, hrd⟩ hff hm _ _ _ =>
      have ⟨_, hle, hi'⟩ := popFront_inv hi hff hm
      ⟨hi', (Nat.sub_sub_sub_cancel_right hle).trans hw, hrd⟩)
    h ⟨hinv, rfl, hnd⟩
  have hrem : ({ r2 with readerWaker := woken, lastRemainingRxWindow := win } : Rx).remainingRxWindow = win - r2.ooq.lenBytes :=
    if_neg (by simp [hrd])
  rwa [hrem, hw, hfront] at hz

/-- **A size probe can never block the send queue for good (D23).** When the next unsent segment is a probe that was
never transmitted and does not fit the window while nothing at all is in flight - the one situation in which no
acknowledgement can arrive to open the window and no timer is armed - the send loop does not simply stop: it reports
the probe (size 0 = "does not fit") and `send_tx_queue` pops it, makes the next segment an ordinary one and restarts
the poll loop, so its bytes are segmented again at a proven size, which always fits (`window() ≥ 2·MSS`, C15). -/
theorem oversized_probe_is_resegmented (h : Header) (item : SegView) (rest : List SegView) (v : VSock) (c : Ctx) (rem : Nat)
    (hrem : rem < item.seg.payloadSize) (hfl : v.segs.calcFlightSize v.lastSentSeqNr = 0)
    (hp : item.seg.isMtuProbe = true) (hs : item.seg.sendCount = 0) :
    newDataLoop h (item :: rest) v c rem = .ok (v, c, some (item.seqNr, 0)) := by
  unfold newDataLoop
  simp [hrem, hfl, hp, hs, pure, Except.pure]

/-- **Each useful acknowledgement makes strict progress**: an ACK whose number is at or beyond the
first unacknowledged segment removes at least one segment from the queue (so `snd_una` advances). -/
theorem ack_makes_progress (s : Segments) (now ackNr : Nat) (sack : Option Sack) (h : SInv s) (hu : s.sndUna < 65536)
    (hne : s.segs ≠ []) (hack : seqSub ackNr s.sndUna ≥ 0) :
    ∃ s' r, s.removeUpToAck now ackNr sack = some (s', r) ∧ 1 ≤ r.ackedSegmentsCount ∧
      s'.segs.length < s.segs.length := by
  obtain ⟨s', r, k, h1, hk, hprog⟩ := removeUpToAck_ok s now ackNr sack h hu
  have hlen : 0 < s.segs.length := List.length_pos_iff.2 hne
  have h1k : 1 ≤ k :=
    Nat.le_trans (by unfold cumAcked; rw [if_pos hack]; exact Nat.le_min.mpr ⟨Nat.le_add_left _ _, hlen⟩) hprog
  exact ⟨s', r, h1, hk.count ▸ h1k, hk.length ▸ Nat.sub_lt hlen h1k⟩

/-! ### Known finding D18: the progress property is FALSE of the model (and of the code) at a zero window

The full statement "progress does not hinge on one datagram" would need: whenever accepted bytes wait and
nothing is in flight, some timer is armed. The witness below refutes it: an established connection whose peer
advertised a zero window, 1000 accepted bytes, one `poll`: nothing is sent, **no timer is armed and no re-poll
is registered**, the bytes stay in the ring. The same five lines are replayed on the implementation on every
run (`corpus/vsock/known_d18_zero_window_no_probe.ops`). -/

def d18State : VSock :=
  let ss := SegSizes.new true 1500 UtpVerif.Gen.MTU_PROBE_COOLDOWN_DEFAULT
  let opts : Opts := { maxRetx := 5, inactivityTimeout := 10000000000, nagle := true, waitForLastAck := true, mtuProbeMaxRetx := 1, txMax := 1048576, rxBufSize := 1048576 }
  { state := .established, opts := opts, socketCreated := 0, connIdSend := 8, lastRemoteTimestamp := 0, lastRemoteWindow := 0, seqNr := 101, lastSentSeqNr := 100, lastConsumedRemoteSeqNr := 0, lastSentAckNr := 0, lastSentWindow := 1048576, rx := Rx.build opts.rxBufSize ss.mss, tx := ((TxRing.new 32768).pollWrite (List.replicate 1000 7)).1, segs := Segments.new 101, ss := ss, rtte := Rtte.init.sample 1000000000, pollNow := 1000000000, timers := { sleep := 1000000000 } }

/-- (the controller's scripted answers do not matter: the budget is `min (window, last_remote_window = 0)`) -/
def d18Ctx : Ctx := { now := 1000000000, transport := .ok, cc := { answers := [0, 0, 0, 0] } }

/-- negation witness (kernel evaluation of the model's `poll`) -/
theorem d18_zero_window_arms_no_timer :
    (d18State.poll d18Ctx).2.2 = .pending ∧ (d18State.poll d18Ctx).2.1.out = [] ∧
    (d18State.poll d18Ctx).1.timers.retransmit = none ∧ (d18State.poll d18Ctx).1.timers.inactivity = none ∧
    (d18State.poll d18Ctx).1.timers.ackDelay = none ∧ (d18State.poll d18Ctx).1.timers.pipeExpiry = none ∧
    (d18State.poll d18Ctx).1.timers.synAckResend = none ∧ (d18State.poll d18Ctx).1.timers.sleepRegistered = false ∧
    (d18State.poll d18Ctx).1.tx.ring.length = 1000 := by
  decide +kernel

end UtpVerif.Props.C02
