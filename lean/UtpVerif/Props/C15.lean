import UtpVerif.Model.Cubic
import Mathlib.Tactic.Linarith
import Mathlib.Data.Rat.Floor
/-!
# C15 — CUBIC congestion window stays sane and reacts to loss

The model (`Model/Cubic.lean`) computes over extended rationals with an explicit rounding operator
`rnd`.  Theorems here hold for **every** `rnd` satisfying `Rounding` (what IEEE-754 round-to-nearest
guarantees on the normal range: monotone, idempotent, exact on integers below 2^53) and for **every**
`cbrt` whatsoever, over every event sequence and every numeric argument.  Two clauses (slow-start growth,
MSS rescale) compare byte counts that float rounding can move by one byte: each is proved once with an
error term in the relative error `ε` of `rnd` (`RoundErr`), which is 0 for exact arithmetic and at most one byte
for binary64; that the real code does deviate by that byte is the recorded finding D15.
-/
namespace UtpVerif.Props.C15
open UtpVerif.Model UtpVerif.Model.XR UtpVerif.Model.Cubic UtpVerif.Gen

/-- What the theorems need from floating-point rounding. -/
structure Rounding (rnd : Rat → Rat) : Prop where
  mono : ∀ {a b : Rat}, a ≤ b → rnd a ≤ rnd b
  idem : ∀ a : Rat, rnd (rnd a) = rnd a
  exactNat : ∀ n : Nat, n < 2 ^ 53 → rnd (n : Rat) = n

theorem rounding_id : Rounding id := ⟨fun h => h, fun _ => rfl, fun _ _ => rfl⟩

/-- The property text's numbers are the crate's numbers (regenerated constants). -/
theorem constants_pinned :
    BETA_CUBIC_NUM = 7 ∧ BETA_CUBIC_DEN = 10 ∧ CUBIC_C_NUM = 2 ∧ CUBIC_C_DEN = 5 ∧
    CUBIC_INITIAL_CWND = 2 ∧ CUBIC_RTO_CWND = 1 := by decide

namespace Rounding
variable {rnd : Rat → Rat} (R : Rounding rnd)
include R

theorem zero : rnd 0 = 0 := by simpa using R.exactNat 0 (by norm_num)
theorem one : rnd 1 = 1 := by simpa using R.exactNat 1 (by norm_num)
theorem two : rnd 2 = 2 := by simpa using R.exactNat 2 (by norm_num)
theorem nonneg {a : Rat} (h : 0 ≤ a) : 0 ≤ rnd a := by simpa [R.zero] using R.mono h
theorem beta_le_one : rnd ((7 : Rat) / 10) ≤ 1 := by simpa [R.one] using R.mono (show (7 : Rat) / 10 ≤ 1 by norm_num)
theorem beta_nonneg : 0 ≤ rnd ((7 : Rat) / 10) := R.nonneg (by norm_num)
theorem max_two {z : Rat} (hz : rnd z = z) : rnd (max z 2) = max z 2 := by
  rcases max_cases z 2 with ⟨h, _⟩ | ⟨h, _⟩ <;> rw [h]
  exacts [hz, R.two]
end Rounding

theorem toUsize_fin (q : Rat) : toUsize (.fin q) = min ⌊q⌋₊ U64MAX := by
  simp only [toUsize]
  split
  · next h => rw [Nat.floor_of_nonpos h.le, Nat.zero_min]
  · rfl  -- `⌊q⌋₊` unfolds to `⌊q⌋.toNat`

theorem toUsize_fin_mono {a b : Rat} (h : a ≤ b) : toUsize (.fin a) ≤ toUsize (.fin b) := by
  rw [toUsize_fin, toUsize_fin]
  exact min_le_min (Nat.floor_mono h) le_rfl

theorem toUsize_fin_nat (n : Nat) (h : n ≤ U64MAX) : toUsize (.fin (n : Rat)) = n := by
  rw [toUsize_fin, Nat.floor_natCast, min_eq_left h]

theorem toUsize_le_nat {P : Rat} {n : Nat} (h : P ≤ n) : toUsize (.fin P) ≤ n := by
  rw [toUsize_fin]
  exact le_trans (min_le_left _ _) (Nat.floor_le_of_le h)

/-- Saturation and truncation are monotone, so a real bound with a natural slack survives `as usize` and
`.min(rwnd_bytes)`. -/
theorem min_toUsize_le_add {P P' : Rat} (hP : 0 ≤ P) {n : Nat} (h : P' ≤ P + n) (w : Nat) :
    min (toUsize (.fin P')) w ≤ min (toUsize (.fin P)) w + n := by
  rw [toUsize_fin, toUsize_fin, ← Nat.add_min_add_right, ← Nat.add_min_add_right, ← Nat.floor_add_natCast hP]
  exact min_le_min (min_le_min (Nat.floor_mono h) (Nat.le_add_right _ _)) (Nat.le_add_right w n)

theorem max_fin_two (q : Rat) : XR.max (.fin q) Cubic.two = .fin (max q 2) := by
  simp only [XR.max, XR.lt, Cubic.two, decide_eq_true_eq, max_def_lt, apply_ite XR.fin]

theorem min_fin (a r : Rat) : XR.min (.fin a) (.fin r) = .fin (min a r) := by
  simp only [XR.min, XR.lt, decide_eq_true_eq, min_comm a r, min_def_lt, apply_ite XR.fin]

theorem max_two_cases (x : XR) : XR.max x Cubic.two = .pinf ∨ ∃ q, XR.max x Cubic.two = .fin q ∧ 2 ≤ q := by
  cases x with
  | nan => exact .inr ⟨2, rfl, le_rfl⟩
  | pinf => exact .inl rfl
  | ninf => exact .inr ⟨2, rfl, le_rfl⟩
  | fin q => exact .inr ⟨_, max_fin_two q, le_max_right _ _⟩

/-- `x.min(rwnd).max(2.)`: finite whatever `x` is, NaN and the infinities included. -/
theorem clamp_cases (x : XR) (r : Rat) :
    ∃ z, XR.max (XR.min x (.fin r)) Cubic.two = .fin (max z 2) ∧ (z = r ∨ z = 2 ∨ x = .fin z) := by
  cases x with
  | nan => exact ⟨r, max_fin_two r, .inl rfl⟩
  | pinf => exact ⟨r, max_fin_two r, .inl rfl⟩
  | ninf => exact ⟨2, by rw [max_self]; rfl, .inr (.inl rfl)⟩
  | fin a => exact ⟨min a r, by rw [min_fin, max_fin_two], (min_choice a r).elim (fun h => .inr (.inr (by rw [h]))) .inl⟩

/-! ### Clause 1: the window is between min(2·MSS, peer window) and the peer window — in every state -/

theorem mssF_eq {e : FEnv} {c : Cubic} (hmr : e.rnd c.mss = c.mss) : c.mssF e = .fin (c.mss : Rat) := by
  rw [Cubic.mssF, XR.ofNat, hmr]

theorem div_ofNat_mssF {e : FEnv} {c : Cubic} (hmr : e.rnd c.mss = c.mss) (hm : 0 < c.mss) (n : Nat) :
    XR.div e.rnd (XR.ofNat e.rnd n) (c.mssF e) = .fin (e.rnd (e.rnd n / c.mss)) := by
  rw [mssF_eq hmr, XR.ofNat, XR.div, if_neg (Nat.cast_ne_zero.mpr hm.ne')]

theorem window_fin {e : FEnv} {c : Cubic} {q : Rat} (hq : c.cwnd = .fin q) (hmr : e.rnd c.mss = c.mss) :
    c.window e = min (toUsize (.fin (e.rnd (max q 2 * c.mss)))) c.rwndBytes := by
  simp only [Cubic.window, mssF_eq hmr, hq, max_fin_two, XR.mul]

/-- **The window is at least two segments (or the peer window if smaller) and at most the peer window**,
whatever the internal state is (including NaN or infinite `cwnd`). -/
theorem window_bounds {e : FEnv} (R : Rounding e.rnd) (c : Cubic) (hm : 0 < c.mss) (hb : 2 * c.mss < 2 ^ 53) :
    min (2 * c.mss) c.rwndBytes ≤ c.window e ∧ c.window e ≤ c.rwndBytes := by
  refine ⟨min_le_min ?_ le_rfl, Nat.min_le_right _ _⟩
  have hu : 2 * c.mss ≤ U64MAX := by simp only [U64MAX]; omega
  have hmq : (0 : Rat) < c.mss := Nat.cast_pos.mpr hm
  rw [mssF_eq (R.exactNat _ (by omega))]
  rcases max_two_cases c.cwnd with h | ⟨q, h, hq⟩ <;> rw [h]
  · -- `∞ * mss` is `∞`, which saturates
    simp only [XR.mul, hmq, if_true, toUsize]
    exact hu
  · rw [← toUsize_fin_nat _ hu]
    refine toUsize_fin_mono ?_
    rw [← R.exactNat _ hb]
    refine R.mono ?_
    push_cast
    exact mul_le_mul_of_nonneg_right hq hmq.le

/-! ### Clause 2: loss reactions -/

theorem window_onRto {e : FEnv} (R : Rounding e.rnd) (c : Cubic) (hb : 2 * c.mss < 2 ^ 53) :
    (c.onRto e).window e = min (2 * c.mss) c.rwndBytes := by
  have h2 : e.rnd (max ((CUBIC_RTO_CWND : Nat) : Rat) 2 * (c.mss : Rat)) = ((2 * c.mss : Nat) : Rat) := by
    rw [← R.exactNat _ hb]; simp [CUBIC_RTO_CWND]
  rw [window_fin (c := c.onRto e) rfl (R.exactNat c.mss (by omega))]
  show min (toUsize (.fin (e.rnd (max ((CUBIC_RTO_CWND : Nat) : Rat) 2 * (c.mss : Rat))))) c.rwndBytes = _
  rw [h2, toUsize_fin_nat _ (by simp only [U64MAX]; omega)]

/-- **A retransmission timeout never increases the window.** -/
theorem rto_never_increases_window {e : FEnv} (R : Rounding e.rnd) (c : Cubic) (hm : 0 < c.mss) (hb : 2 * c.mss < 2 ^ 53) :
    (c.onRto e).window e ≤ c.window e := by
  rw [window_onRto R c hb]; exact (window_bounds R c hm hb).1

theorem mul_beta (e : FEnv) (q : Rat) :
    XR.mul e.rnd (.fin q) (Cubic.beta e) = .fin (e.rnd (q * e.rnd ((7 : Rat) / 10))) := by
  simp only [Cubic.beta, XR.mul, BETA_CUBIC_NUM, BETA_CUBIC_DEN]
  norm_num

/-- **…and sets the slow-start threshold to 0.7 of the previous window, at least two segments.** -/
theorem rto_ssthresh {e : FEnv} (c : Cubic) (q : Rat) (hq : c.cwnd = .fin q) :
    (c.onRto e).ssthresh = .fin (max (e.rnd (q * e.rnd ((7 : Rat) / 10))) 2) := by
  simp only [Cubic.onRto, hq, mul_beta, max_fin_two]

theorem enter_cwnd {e : FEnv} (c : Cubic) (q : Rat) (hq : c.cwnd = .fin q) (now : Nat) :
    (c.onEnterRecovery e now).cwnd = .fin (e.rnd (q * e.rnd ((7 : Rat) / 10))) := by
  simp only [Cubic.onEnterRecovery, hq, mul_beta]

/-- **Entering fast recovery sets the threshold to 0.7 of the previous window, at least two segments**
(and the window itself to 0.7 of it). -/
theorem enter_ssthresh {e : FEnv} (c : Cubic) (q : Rat) (hq : c.cwnd = .fin q) (now : Nat) :
    (c.onEnterRecovery e now).ssthresh = .fin (max (e.rnd (q * e.rnd ((7 : Rat) / 10))) 2) := by
  simp only [Cubic.onEnterRecovery, hq, mul_beta, max_fin_two]

theorem enter_frame {e : FEnv} (c : Cubic) (now : Nat) :
    (c.onEnterRecovery e now).rwnd = c.rwnd ∧ (c.onEnterRecovery e now).mss = c.mss ∧
      (c.onEnterRecovery e now).rwndBytes = c.rwndBytes := by
  simp [Cubic.onEnterRecovery]

/-- **Entering fast recovery never increases the window** (for a finite, non-negative, representable `cwnd`:
every reachable state, see `reachable_inv`). -/
theorem enter_never_increases_window {e : FEnv} (R : Rounding e.rnd) (c : Cubic) (q : Rat)
    (hq : c.cwnd = .fin q) (h0 : 0 ≤ q) (hr : e.rnd q = q) (hb : c.mss < 2 ^ 53) (now : Nat) :
    (c.onEnterRecovery e now).window e ≤ c.window e := by
  have hmr := R.exactNat c.mss hb
  have hle : e.rnd (q * e.rnd ((7 : Rat) / 10)) ≤ q := by
    have := R.mono (mul_le_of_le_one_right h0 R.beta_le_one)
    rwa [hr] at this
  have hf := enter_frame (e := e) c now
  rw [window_fin (enter_cwnd c q hq now) (by rw [hf.2.1]; exact hmr), window_fin hq hmr, hf.2.1, hf.2.2]
  exact min_le_min (toUsize_fin_mono (R.mono (mul_le_mul_of_nonneg_right (max_le_max hle le_rfl) (Nat.cast_nonneg _)))) le_rfl

/-! ### The window is always a finite number: an invariant of every event sequence -/

/-- finite, non-negative, representable -/
def Rep (rnd : Rat → Rat) (x : XR) : Prop := ∃ q, x = .fin q ∧ 0 ≤ q ∧ rnd q = q

/-- if finite then representable (what every arithmetic result satisfies) -/
def Outp (rnd : Rat → Rat) (x : XR) : Prop := ∀ q, x = .fin q → rnd q = q

structure Inv (e : FEnv) (c : Cubic) : Prop where
  cwnd : Rep e.rnd c.cwnd
  rwnd : Rep e.rnd c.rwnd
  mssPos : 0 < c.mss
  mssSmall : c.mss < 2 ^ 53

section
variable {rnd : Rat → Rat}

theorem outp_nan : Outp rnd .nan := nofun
theorem outp_pinf : Outp rnd .pinf := nofun
theorem outp_ninf : Outp rnd .ninf := nofun
theorem outp_fin {q : Rat} : Outp rnd (.fin q) ↔ rnd q = q := ⟨fun h => h q rfl, fun h _ e => XR.fin.inj e ▸ h⟩

variable (R : Rounding rnd)
include R

theorem add_outp (a b : XR) : Outp rnd (XR.add rnd a b) := by
  cases a <;> cases b <;> simp only [XR.add, outp_nan, outp_pinf, outp_ninf, outp_fin, R.idem]

theorem mul_outp (a b : XR) : Outp rnd (XR.mul rnd a b) := by
  cases a <;> cases b <;>
    simp only [XR.mul, apply_ite (Outp rnd), outp_nan, outp_pinf, outp_ninf, outp_fin, R.idem, ite_self]

theorem div_outp (a b : XR) : Outp rnd (XR.div rnd a b) := by
  cases a <;> cases b <;>
    simp only [XR.div, apply_ite (Outp rnd), outp_nan, outp_pinf, outp_ninf, outp_fin, R.idem, R.zero, ite_self]

theorem rep_rnd {x : Rat} (hx : 0 ≤ x) : Rep rnd (.fin (rnd x)) := ⟨_, rfl, R.nonneg hx, R.idem _⟩

theorem clamp_rep {x r : XR} (hx : Outp rnd x) (hr : Rep rnd r) : Rep rnd (XR.max (XR.min x r) Cubic.two) := by
  obtain ⟨r, rfl, -, hr⟩ := hr
  obtain ⟨z, h, hz⟩ := clamp_cases x r
  refine ⟨_, h, le_trans zero_le_two (le_max_right _ _), R.max_two ?_⟩
  rcases hz with rfl | rfl | rfl
  exacts [hr, R.two, hx _ rfl]
end

inductive Ev where
  | ack (now len rttNs : Nat)
  | rto
  | enter (now : Nat)
  | recovered (cwndBytes ssthresh : Nat)
  | setMss (m : Nat)
  | setRwnd (win : Nat)
deriving Repr

/-- The only argument restriction: an MSS is positive (and below 2^53). -/
def Ev.ok : Ev → Prop
  | .setMss m => 0 < m ∧ m < 2 ^ 53
  | _ => True

def step (e : FEnv) (c : Cubic) : Ev → Cubic
  | .ack now len rtt => c.onAck e now len rtt
  | .rto => c.onRto e
  | .enter now => c.onEnterRecovery e now
  | .recovered cw ss => c.onRecovered e cw ss
  | .setMss m => c.setMss e m
  | .setRwnd w => c.setRemoteWindow e w

def run (e : FEnv) (c : Cubic) (evs : List Ev) : Cubic := evs.foldl (step e) c

theorem new_inv (e : FEnv) (R : Rounding e.rnd) (now mss : Nat) (h0 : 0 < mss) (h1 : mss < 2 ^ 53) :
    Inv e (Cubic.new now mss) :=
  ⟨⟨2, by simp [Cubic.new, CUBIC_INITIAL_CWND], by norm_num, R.two⟩, ⟨0, rfl, le_refl _, R.zero⟩, h0, h1⟩

theorem onAck_cases {e : FEnv} (R : Rounding e.rnd) (c : Cubic) (now len rtt : Nat) :
    c.onAck e now len rtt = c ∨
      ∃ x, c.onAck e now len rtt = { c with cwnd := XR.max (XR.min x c.rwnd) Cubic.two } ∧ Outp e.rnd x ∧
        (XR.lt c.cwnd c.ssthresh = true → x = XR.add e.rnd c.cwnd (XR.div e.rnd (XR.ofNat e.rnd len) (c.mssF e))) := by
  unfold Cubic.onAck Cubic.onAckWith
  by_cases h1 : len = 0
  · exact .inl (if_pos h1)
  by_cases h2 : XR.ge c.cwnd c.rwnd = true
  · exact .inl ((if_neg h1).trans (if_pos h2))
  rw [if_neg h1, if_neg h2]
  refine .inr ⟨_, rfl, ?_, fun h => if_pos h⟩
  split
  · exact add_outp R _ _
  · dsimp only
    split <;> exact add_outp R _ _

theorem Inv.frame {e : FEnv} {c c' : Cubic} (h : Inv e c) (hc : Rep e.rnd c'.cwnd) (hr : c'.rwnd = c.rwnd)
    (hm : c'.mss = c.mss) : Inv e c' :=
  ⟨hc, hr ▸ h.rwnd, hm ▸ h.mssPos, hm ▸ h.mssSmall⟩

theorem step_inv (e : FEnv) (R : Rounding e.rnd) (c : Cubic) (ev : Ev) (hok : ev.ok) (h : Inv e c) :
    Inv e (step e c ev) := by
  obtain ⟨q, hq, hq0, -⟩ := h.cwnd
  have hmss := mssF_eq (R.exactNat _ h.mssSmall)
  cases ev with
  | ack now len rtt =>
    rcases onAck_cases R c now len rtt with h' | ⟨x, h', hx, -⟩ <;> simp only [step, h']
    exacts [h, h.frame (clamp_rep R hx h.rwnd) rfl rfl]
  | rto => exact h.frame ⟨1, by simp [step, Cubic.onRto, CUBIC_RTO_CWND], zero_le_one, R.one⟩ rfl rfl
  | enter now =>
    have hf := enter_frame (e := e) c now
    exact h.frame (enter_cwnd c q hq now ▸ rep_rnd R (mul_nonneg hq0 R.beta_nonneg)) hf.1 hf.2.1
  | recovered cw ss => exact h.frame (clamp_rep R (div_outp R _ _) h.rwnd) rfl rfl
  | setMss m =>
    simp only [step, Cubic.setMss]
    split
    · exact h
    · refine ⟨?_, h.rwnd, hok.1, hok.2⟩
      simp only [hq, hmss, XR.ofNat, R.exactNat m hok.2, XR.div, Nat.cast_ne_zero.mpr hok.1.ne', if_false, XR.mul]
      exact rep_rnd R (mul_nonneg hq0 (R.nonneg (div_nonneg (Nat.cast_nonneg _) (Nat.cast_nonneg _))))
  | setRwnd w =>
    refine ⟨h.cwnd, ?_, h.mssPos, h.mssSmall⟩
    show Rep e.rnd (XR.div e.rnd (XR.ofNat e.rnd w) (c.mssF e))
    rw [div_ofNat_mssF (R.exactNat _ h.mssSmall) h.mssPos]
    exact rep_rnd R (div_nonneg (R.nonneg (Nat.cast_nonneg _)) (Nat.cast_nonneg _))

/-- **For every sequence of acknowledgements, timeouts, recovery episodes, MSS changes and peer-window
updates** (any numeric arguments: zero/huge RTT, zero-length ACKs, zero or tiny peer windows) the
congestion window is a finite non-negative number and the peer window is too. -/
theorem reachable_inv (e : FEnv) (R : Rounding e.rnd) (now mss : Nat) (h0 : 0 < mss) (h1 : mss < 2 ^ 53)
    (evs : List Ev) (hok : ∀ ev ∈ evs, ev.ok) : Inv e (run e (Cubic.new now mss) evs) :=
  List.foldlRecOn evs (step e) (new_inv e R now mss h0 h1) fun c h ev hev => step_inv e R c ev (hok ev hev) h

/-- The headline: after any event sequence, `window()` is between min(2·MSS, peer window) and the peer
window, and the internal `cwnd` is finite. -/
theorem window_always_sane (e : FEnv) (R : Rounding e.rnd) (now mss : Nat) (h0 : 0 < mss) (h1 : mss < 2 ^ 53)
    (evs : List Ev) (hok : ∀ ev ∈ evs, ev.ok) :
    let c := run e (Cubic.new now mss) evs
    (∃ q, c.cwnd = .fin q ∧ 0 ≤ q) ∧ (2 * c.mss < 2 ^ 53 → min (2 * c.mss) c.rwndBytes ≤ c.window e) ∧ c.window e ≤ c.rwndBytes := by
  intro c
  have hi := reachable_inv e R now mss h0 h1 evs hok
  obtain ⟨q, hq, hq0, _⟩ := hi.cwnd
  exact ⟨⟨q, hq, hq0⟩, fun hb => (window_bounds R c hi.mssPos hb).1, Nat.min_le_right _ _⟩

/-- Loss reactions over reachable states: neither a timeout nor entering recovery increases the window. -/
theorem loss_never_increases_window (e : FEnv) (R : Rounding e.rnd) (now mss : Nat) (h0 : 0 < mss) (h1 : mss < 2 ^ 53)
    (evs : List Ev) (hok : ∀ ev ∈ evs, ev.ok) (t : Nat) :
    let c := run e (Cubic.new now mss) evs
    2 * c.mss < 2 ^ 53 →
    (c.onRto e).window e ≤ c.window e ∧ (c.onEnterRecovery e t).window e ≤ c.window e := by
  intro c hb
  have hi := reachable_inv e R now mss h0 h1 evs hok
  obtain ⟨q, hq, hq0, hqr⟩ := hi.cwnd
  exact ⟨rto_never_increases_window R c hi.mssPos hb, enter_never_increases_window R c q hq hq0 hqr hi.mssSmall t⟩

theorem zero_len_ack_noop (e : FEnv) (c : Cubic) (now rtt : Nat) : c.onAck e now 0 rtt = c := by
  simp [Cubic.onAck, Cubic.onAckWith]

/-! ### The floating-point error model and its real-number core

`RoundErr rnd ε`: every rounding has relative error at most ε (binary64: ε = 2⁻⁵³ on the normal range; exact arithmetic:
ε = 0). Clauses 3 and 4 carry an error term `K * (8 * ε)` for byte magnitude `K`, at most ONE byte for `K ≤ 2⁵⁰`
(`scale_le_one`) - and D15 shows that one byte does occur. -/

def exact (cb : Rat → Rat) : FEnv := { rnd := id, cbrt := cb }

structure RoundErr (rnd : Rat → Rat) (ε : Rat) : Prop where
  pos : 0 ≤ ε
  err : ∀ x : Rat, |rnd x - x| ≤ ε * |x|

theorem RoundErr.le {rnd : Rat → Rat} {ε : Rat} (E : RoundErr rnd ε) {x : Rat} (hx : 0 ≤ x) : rnd x ≤ x * (1 + ε) := by
  have := (abs_le.mp (E.err x)).2
  rw [abs_of_nonneg hx] at this
  linarith

theorem RoundErr.ge {rnd : Rat → Rat} {ε : Rat} (E : RoundErr rnd ε) {x : Rat} (hx : 0 ≤ x) : x * (1 - ε) ≤ rnd x := by
  have := (abs_le.mp (E.err x)).1
  rw [abs_of_nonneg hx] at this
  linarith

theorem roundErr_id : RoundErr id 0 := ⟨le_refl _, fun x => by simp⟩

/-- three roundings up against one rounding down: the error is at most eight relative errors -/
theorem three_up {ε K M P P' : Rat} (hε0 : 0 ≤ ε) (hε1 : ε ≤ 1) (hM0 : 0 ≤ M) (hMK : M ≤ K)
    (hP' : P' ≤ K * ((1 + ε) * (1 + ε) * (1 + ε))) (hP : M * (1 - ε) ≤ P) : P' ≤ P + (K - M) + K * (8 * ε) := by
  have e2 : ε * ε ≤ ε := mul_le_of_le_one_right hε0 hε1
  have e3 : ε * ε * ε ≤ ε * ε := mul_le_of_le_one_right (mul_nonneg hε0 hε0) hε1
  have h7 : (1 + ε) * (1 + ε) * (1 + ε) ≤ 1 + 7 * ε := by linarith
  have := le_trans hP' (mul_le_mul_of_nonneg_left h7 (le_trans hM0 hMK))
  have := mul_le_mul_of_nonneg_right hMK hε0
  linarith

theorem scale_le_one {ε K : Rat} (hε0 : 0 ≤ ε) (hε : ε * 2 ^ 53 ≤ 1) (hK : K ≤ 2 ^ 50) : K * (8 * ε) ≤ 1 :=
  le_trans (mul_le_mul_of_nonneg_right hK (mul_nonneg (by norm_num) hε0)) (by linarith)

theorem le_one_of_scaled {ε : Rat} (hε0 : 0 ≤ ε) (hε : ε * 2 ^ 53 ≤ 1) : ε ≤ 1 :=
  le_trans (le_mul_of_one_le_right hε0 (by norm_num)) hε

theorem max_two_mul_nonneg (q : Rat) {m : Rat} (hm : 0 ≤ m) : 0 ≤ max q 2 * m :=
  mul_nonneg (le_trans zero_le_two (le_max_right q 2)) hm

theorem le_add_err {x P len K ε : Rat} (h : x ≤ P) (hl : 0 ≤ len) (hK : 0 ≤ K) (hε : 0 ≤ ε) :
    x ≤ P + len + K * (8 * ε) :=
  (h.trans (le_add_of_nonneg_right hl)).trans (le_add_of_nonneg_right (mul_nonneg hK (mul_nonneg (by norm_num) hε)))

/-- One slow-start ACK over the reals: `a = rnd(len/m)`, `s = rnd(q + a)`, `y' = max (min s rwnd) 2`, `P' = rnd(y'·m)` against
`P = rnd(max q 2 · m)`; `hmono` is the monotonicity of `rnd`. -/
theorem growth_bound {ε m q len a s y' P P' : Rat} (hε0 : 0 ≤ ε) (hε1 : ε ≤ 1) (hm : 0 < m) (hl0 : 0 ≤ len)
    (h1 : a ≤ len / m * (1 + ε)) (h2 : s ≤ (q + a) * (1 + ε)) (hy : y' ≤ max s 2)
    (h3 : P' ≤ y' * m * (1 + ε)) (h4 : max q 2 * m * (1 - ε) ≤ P) (hmono : y' * m ≤ max q 2 * m → P' ≤ P) :
    P' ≤ P + len + (max q 2 * m + len) * (8 * ε) := by
  have hu : (0 : Rat) ≤ 1 + ε := add_nonneg zero_le_one hε0
  have hM0 := max_two_mul_nonneg q hm.le
  rcases le_total s 2 with hs | hs
  · exact le_add_err (hmono (mul_le_mul_of_nonneg_right (le_trans hy (le_trans (max_le hs le_rfl) (le_max_right q 2))) hm.le))
      hl0 (add_nonneg hM0 hl0) hε0
  · have hqm : q * m ≤ max q 2 * m := mul_le_mul_of_nonneg_right (le_max_left q 2) hm.le
    have hA : y' ≤ (q + len / m * (1 + ε)) * (1 + ε) :=
      le_trans (le_trans hy (max_le le_rfl hs)) (le_trans h2 (mul_le_mul_of_nonneg_right (add_le_add_right h1 q) hu))
    have hB : (q + len / m * (1 + ε)) * (1 + ε) * m = (q * m + len / m * m * (1 + ε)) * (1 + ε) := by ring
    rw [div_mul_cancel₀ len hm.ne'] at hB
    have hMε := mul_nonneg hM0 hε0
    have hC : q * m + len * (1 + ε) ≤ (max q 2 * m + len) * (1 + ε) := by linarith
    have hE : P' ≤ (max q 2 * m + len) * ((1 + ε) * (1 + ε) * (1 + ε)) :=
      calc P' ≤ y' * m * (1 + ε) := h3
        _ ≤ (max q 2 * m + len) * (1 + ε) * (1 + ε) * (1 + ε) :=
          mul_le_mul_of_nonneg_right (le_trans (mul_le_mul_of_nonneg_right hA hm.le)
            (le_trans (le_of_eq hB) (mul_le_mul_of_nonneg_right hC hu))) hu
        _ = _ := by ring
    have := three_up hε0 hε1 hM0 (le_add_of_nonneg_right hl0) hE h4
    linarith

/-- `growth_bound` at binary64: `ε ≤ 2⁻⁵³`, byte magnitude at most 2⁵⁰ -/
theorem growth_key (ε m q len a s y' P P' : Rat) (hε0 : 0 ≤ ε) (hε : ε * 2 ^ 53 ≤ 1) (hm : 0 < m) (hq0 : 0 ≤ q) (hl0 : 0 ≤ len)
    (ha0 : 0 ≤ a) (h1 : a ≤ len / m * (1 + ε)) (h2 : s ≤ (q + a) * (1 + ε)) (hy2 : 2 ≤ y') (hy : y' ≤ max s 2)
    (h3 : P' ≤ y' * m * (1 + ε)) (h4 : max q 2 * m * (1 - ε) ≤ P) (hmono : y' * m ≤ max q 2 * m → P' ≤ P)
    (hK : max q 2 * m + len ≤ 2 ^ 50) : P' ≤ P + len + 1 := by
  have := growth_bound hε0 (le_one_of_scaled hε0 hε) hm hl0 h1 h2 hy h3 h4 hmono
  have := scale_le_one hε0 hε hK
  linarith

/-- An MSS change over the reals: `ρ = rnd(mss/m)`, `c' = rnd(q·ρ)`, `P' = rnd(c'·m)` against `P = rnd(q·mss)`. -/
theorem rescale_bound {ε mss m q ρ c' P P' : Rat} (hε0 : 0 ≤ ε) (hε1 : ε ≤ 1) (hmss : 0 ≤ mss) (hm : 0 < m) (hq0 : 0 ≤ q)
    (hρ1 : ρ ≤ mss / m * (1 + ε)) (hρ2 : mss / m * (1 - ε) ≤ ρ)
    (hc1 : c' ≤ q * ρ * (1 + ε)) (hc2 : q * ρ * (1 - ε) ≤ c')
    (hP'1 : P' ≤ c' * m * (1 + ε)) (hP'2 : c' * m * (1 - ε) ≤ P')
    (hP1 : P ≤ q * mss * (1 + ε)) (hP2 : q * mss * (1 - ε) ≤ P) :
    P' ≤ P + q * mss * (8 * ε) ∧ P ≤ P' + q * mss * (8 * ε) := by
  have hu : (0 : Rat) ≤ 1 + ε := add_nonneg zero_le_one hε0
  have hv : (0 : Rat) ≤ 1 - ε := sub_nonneg.mpr hε1
  have hK0 : 0 ≤ q * mss := mul_nonneg hq0 hmss
  have hmm : mss / m * m = mss := div_mul_cancel₀ mss hm.ne'
  -- (used at `w = 1 + ε` and at `w = 1 - ε`)
  have heq : ∀ w : Rat, q * (mss / m * w) * w * m * w = q * (mss / m * m) * (w * w * w) := fun w => by ring
  rw [hmm] at heq
  constructor
  · have hE : P' ≤ q * mss * ((1 + ε) * (1 + ε) * (1 + ε)) :=
      le_trans hP'1 (le_trans (mul_le_mul_of_nonneg_right (mul_le_mul_of_nonneg_right (le_trans hc1
        (mul_le_mul_of_nonneg_right (mul_le_mul_of_nonneg_left hρ1 hq0) hu)) hm.le) hu) (le_of_eq (heq _)))
    have := three_up hε0 hε1 hK0 le_rfl hE hP2
    linarith
  · have hE : q * mss * ((1 - ε) * (1 - ε) * (1 - ε)) ≤ P' :=
      le_trans (le_of_eq (heq _).symm) (le_trans (mul_le_mul_of_nonneg_right (mul_le_mul_of_nonneg_right (le_trans
        (mul_le_mul_of_nonneg_right (mul_le_mul_of_nonneg_left hρ2 hq0) hv) hc2) hm.le) hv) hP'2)
    have e3 : ε * ε * ε ≤ ε * ε := mul_le_of_le_one_right (mul_nonneg hε0 hε0) hε1
    have h3 : 1 - 3 * ε ≤ (1 - ε) * (1 - ε) * (1 - ε) := by linarith [mul_nonneg hε0 hε0]
    have := le_trans (mul_le_mul_of_nonneg_left h3 hK0) hE
    have := mul_nonneg hK0 hε0
    linarith

/-- `rescale_bound` at binary64: `P = rnd(q·mss)`, `P' = rnd(rnd(q·rnd(mss/m))·m)` differ by at most 1 -/
theorem rescale_key (ε mss m q ρ c' P P' : Rat) (hε0 : 0 ≤ ε) (hε : ε * 2 ^ 53 ≤ 1) (hmss : 0 < mss) (hm : 0 < m) (hq0 : 0 ≤ q)
    (hρ1 : ρ ≤ mss / m * (1 + ε)) (hρ2 : mss / m * (1 - ε) ≤ ρ)
    (hc1 : c' ≤ q * ρ * (1 + ε)) (hc2 : q * ρ * (1 - ε) ≤ c') (hc0 : 0 ≤ c')
    (hP'1 : P' ≤ c' * m * (1 + ε)) (hP'2 : c' * m * (1 - ε) ≤ P')
    (hP1 : P ≤ q * mss * (1 + ε)) (hP2 : q * mss * (1 - ε) ≤ P) (hK : q * mss ≤ 2 ^ 50) :
    P' ≤ P + 1 ∧ P ≤ P' + 1 := by
  have := rescale_bound hε0 (le_one_of_scaled hε0 hε) hmss.le hm hq0 hρ1 hρ2 hc1 hc2 hP'1 hP'2 hP1 hP2
  have := scale_le_one hε0 hε hK
  exact ⟨by linarith, by linarith⟩

/-! ### Clause 3: slow-start growth -/

theorem onAck_slowStart {e : FEnv} (R : Rounding e.rnd) {c : Cubic} {q r : Rat} (hq : c.cwnd = .fin q)
    (hr : c.rwnd = .fin r) (hm : 0 < c.mss) (hmr : e.rnd c.mss = c.mss) (hss : XR.lt c.cwnd c.ssthresh = true)
    (now len rtt : Nat) :
    c.onAck e now len rtt = c ∨ c.onAck e now len rtt =
      { c with cwnd := .fin (max (min (e.rnd (q + e.rnd (e.rnd len / c.mss))) r) 2) } := by
  rcases onAck_cases R c now len rtt with h | ⟨x, h, -, hx⟩
  · exact .inl h
  · rw [h, hx hss, div_ofNat_mssF hmr hm, hq, hr, XR.add, min_fin, max_fin_two]
    exact .inr rfl

/-- **One slow-start ACK, in bytes before `as usize`**: `cwnd` stays finite and `cwnd.max(2.) * mss` grows by at most
the bytes acknowledged plus eight relative errors of the magnitude; nothing else changes. -/
theorem ack_bytes {e : FEnv} {ε : Rat} (R : Rounding e.rnd) (E : RoundErr e.rnd ε) (hε1 : ε ≤ 1) {c : Cubic} {q r : Rat}
    (hq : c.cwnd = .fin q) (hq0 : 0 ≤ q) (hr : c.rwnd = .fin r) (hm : 0 < c.mss) (hmr : e.rnd c.mss = c.mss)
    (hss : XR.lt c.cwnd c.ssthresh = true) (now len rtt : Nat) (hlr : e.rnd len = len) :
    ∃ q', c.onAck e now len rtt = { c with cwnd := .fin q' } ∧ 0 ≤ q' ∧
      e.rnd (max q' 2 * c.mss) ≤ e.rnd (max q 2 * c.mss) + len + (max q 2 * c.mss + len) * (8 * ε) := by
  have hmp : (0 : Rat) < c.mss := Nat.cast_pos.mpr hm
  have hM0 := max_two_mul_nonneg q hmp.le
  have hd : (0 : Rat) ≤ (len : Rat) / c.mss := div_nonneg (Nat.cast_nonneg _) hmp.le
  rcases onAck_slowStart R hq hr hm hmr hss now len rtt with h | h
  · exact ⟨q, by rw [h, ← hq], hq0, le_add_err le_rfl (Nat.cast_nonneg _) (add_nonneg hM0 (Nat.cast_nonneg _)) E.pos⟩
  · rw [hlr] at h
    refine ⟨_, h, le_trans zero_le_two (le_max_right _ _), ?_⟩
    rw [max_eq_left (le_max_right _ 2)]
    exact growth_bound E.pos hε1 hmp (Nat.cast_nonneg len) (E.le hd) (E.le (add_nonneg hq0 (R.nonneg hd)))
      (max_le_max (min_le_left _ _) le_rfl) (E.le (max_two_mul_nonneg _ hmp.le)) (E.ge hM0) (fun h => R.mono h)

/-- …and after `as usize` and the clamp to the peer's bytes, with the error term rounded up to `δ` bytes. -/
theorem ack_window {e : FEnv} {ε : Rat} (R : Rounding e.rnd) (E : RoundErr e.rnd ε) (hε1 : ε ≤ 1) {c : Cubic} {q r : Rat}
    (hq : c.cwnd = .fin q) (hq0 : 0 ≤ q) (hr : c.rwnd = .fin r) (hm : 0 < c.mss) (hmr : e.rnd c.mss = c.mss)
    (hss : XR.lt c.cwnd c.ssthresh = true) (now len rtt : Nat) (hlr : e.rnd len = len) {δ : Nat}
    (hδ : (max q 2 * c.mss + len) * (8 * ε) ≤ δ) :
    (c.onAck e now len rtt).window e ≤ c.window e + (len + δ) := by
  obtain ⟨q', h, -, hb⟩ := ack_bytes R E hε1 hq hq0 hr hm hmr hss now len rtt hlr
  rw [h, window_fin (c := { c with cwnd := .fin q' }) rfl hmr, window_fin hq hmr]
  exact min_toUsize_le_add (R.nonneg (max_two_mul_nonneg q (Nat.cast_nonneg _))) (by push_cast; linarith) _

/-- **In slow start one acknowledgement grows the window by at most the bytes it acknowledged** —
in exact arithmetic.  With f64 rounding the real code can exceed this by one byte (finding D15). -/
theorem slow_start_growth_exact (cb : Rat → Rat) (c : Cubic) (q r : Rat) (hq : c.cwnd = .fin q) (hq0 : 0 ≤ q)
    (hr : c.rwnd = .fin r) (hm : 0 < c.mss) (_hss : XR.lt c.cwnd c.ssthresh = true) (now len rtt : Nat) :
    (c.onAck (exact cb) now len rtt).window (exact cb) ≤ c.window (exact cb) + len := by
  simpa using ack_window (e := exact cb) rounding_id roundErr_id zero_le_one hq hq0 hr hm rfl _hss now len rtt rfl
    (δ := 0) (by simp)

/-- **In slow start one acknowledgement grows the window by at most the bytes it acknowledged plus ONE byte**,
for every rounding operator with relative error ≤ 2⁻⁵³ (binary64) and byte magnitudes below 2⁵⁰. -/
theorem slow_start_growth_within_one_byte {e : FEnv} {ε : Rat} (R : Rounding e.rnd) (E : RoundErr e.rnd ε)
    (hε : ε * 2 ^ 53 ≤ 1) (c : Cubic) (q r : Rat) (hq : c.cwnd = .fin q) (hq0 : 0 ≤ q) (hr : c.rwnd = .fin r)
    (hm : 0 < c.mss) (hms : c.mss < 2 ^ 53) (hss : XR.lt c.cwnd c.ssthresh = true) (now len rtt : Nat) (hlen : len < 2 ^ 53)
    (hB : max q 2 * c.mss + len ≤ 2 ^ 50) :
    (c.onAck e now len rtt).window e ≤ c.window e + len + 1 := by
  have := ack_window R E (le_one_of_scaled E.pos hε) hq hq0 hr hm (R.exactNat _ hms) hss now len rtt (R.exactNat _ hlen)
    (δ := 1) (by simpa using scale_le_one E.pos hε hB)
  omega

/-! ### Clause 4: an MSS change rescales the window -/

/-- Changing the MSS and re-applying the peer window moves `window()` by at most the error term rounded up
to `δ` bytes, in either direction (above the two-segment floor of the new MSS). -/
theorem mss_change_bound {e : FEnv} {ε : Rat} (R : Rounding e.rnd) (E : RoundErr e.rnd ε) (hε1 : ε ≤ 1) {c : Cubic} {q : Rat}
    (hq : c.cwnd = .fin q) (hq2 : 2 ≤ q) (hmr : e.rnd c.mss = c.mss) {m : Nat} (hm' : 0 < m) (hm'r : e.rnd m = m)
    (hne : c.mss ≠ m) (hfloor : 2 ≤ e.rnd (q * e.rnd ((c.mss : Rat) / m))) {δ : Nat} (hδ : q * c.mss * (8 * ε) ≤ δ) :
    ((c.setMss e m).setRemoteWindow e c.rwndBytes).window e ≤ c.window e + δ ∧
      c.window e ≤ ((c.setMss e m).setRemoteWindow e c.rwndBytes).window e + δ := by
  have hmp' : (0 : Rat) < m := Nat.cast_pos.mpr hm'
  have hq0 : 0 ≤ q := le_trans zero_le_two hq2
  have hρ0 : (0 : Rat) ≤ (c.mss : Rat) / m := div_nonneg (Nat.cast_nonneg _) hmp'.le
  have hc0 : 0 ≤ q * e.rnd ((c.mss : Rat) / m) := mul_nonneg hq0 (R.nonneg hρ0)
  have hcm0 : 0 ≤ e.rnd (q * e.rnd ((c.mss : Rat) / m)) * (m : Rat) := mul_nonneg (R.nonneg hc0) hmp'.le
  have hqm0 : 0 ≤ q * (c.mss : Rat) := mul_nonneg hq0 (Nat.cast_nonneg _)
  have key := rescale_bound E.pos hε1 (Nat.cast_nonneg c.mss) hmp' hq0 (E.le hρ0) (E.ge hρ0) (E.le hc0) (E.ge hc0)
    (E.le hcm0) (E.ge hcm0) (E.le hqm0) (E.ge hqm0)
  have hw' : ((c.setMss e m).setRemoteWindow e c.rwndBytes).window e =
      min (toUsize (.fin (e.rnd (e.rnd (q * e.rnd ((c.mss : Rat) / m)) * m)))) c.rwndBytes := by
    simp only [Cubic.setMss, hne, if_false, Cubic.setRemoteWindow, Cubic.window, Cubic.mssF, XR.ofNat, hmr, hm'r, hq,
      XR.div, hmp'.ne', XR.mul, max_fin_two, max_eq_left hfloor]
  rw [hw', window_fin hq hmr, max_eq_left hq2]
  exact ⟨min_toUsize_le_add (R.nonneg hqm0) (le_trans key.1 (add_le_add_right hδ _)) _,
    min_toUsize_le_add (R.nonneg hcm0) (le_trans key.2 (add_le_add_right hδ _)) _⟩

/-- **Changing the MSS keeps the window's byte value once the peer window is re-applied** (above the
two-segment floor of the new MSS) — in exact arithmetic; with f64 rounding the byte value may move by
one (checked with that tolerance on the implementation by the `cubic_sanity` oracle). -/
theorem mss_change_rescales_exact (cb : Rat → Rat) (c : Cubic) (q : Rat) (hq : c.cwnd = .fin q) (hq2 : 2 ≤ q)
    (hm : 0 < c.mss) (m : Nat) (hm' : 0 < m) (hfloor : (2 * m : Rat) ≤ q * c.mss) :
    ((c.setMss (exact cb) m).setRemoteWindow (exact cb) c.rwndBytes).window (exact cb) = c.window (exact cb) := by
  by_cases heq : c.mss = m
  · rw [Cubic.setMss, if_pos heq]
    rfl
  · have hmp : (0 : Rat) < m := Nat.cast_pos.mpr hm'
    have h2 : (2 : Rat) ≤ q * ((c.mss : Rat) / m) := by
      rw [← mul_div_assoc]
      exact (le_div_iff₀ hmp).mpr hfloor
    have := mss_change_bound (e := exact cb) rounding_id roundErr_id zero_le_one hq hq2 rfl hm' rfl heq h2 (δ := 0) (by simp)
    exact le_antisymm this.1 this.2

/-- **Changing the MSS keeps the window's byte value, up to ONE byte, once the peer window is re-applied**
(above the two-segment floor of the new MSS), for every rounding operator with relative error ≤ 2⁻⁵³ and
byte magnitudes below 2⁵⁰. -/
theorem mss_change_rescales_within_one_byte {e : FEnv} {ε : Rat} (R : Rounding e.rnd) (E : RoundErr e.rnd ε)
    (hε : ε * 2 ^ 53 ≤ 1) (c : Cubic) (q : Rat) (hq : c.cwnd = .fin q) (hq2 : 2 ≤ q)
    (hm : 0 < c.mss) (hms : c.mss < 2 ^ 53) (m : Nat) (hm' : 0 < m) (hm's : m < 2 ^ 53) (hne : c.mss ≠ m)
    (hfloor : 2 ≤ e.rnd (q * e.rnd ((c.mss : Rat) / m))) (hK : q * c.mss ≤ 2 ^ 50) :
    let w' := ((c.setMss e m).setRemoteWindow e c.rwndBytes).window e
    w' ≤ c.window e + 1 ∧ c.window e ≤ w' + 1 := by
  exact mss_change_bound R E (le_one_of_scaled E.pos hε) hq hq2 (R.exactNat _ hms) hm' (R.exactNat _ hm's) hne hfloor
    (δ := 1) (by simpa using scale_le_one E.pos hε hK)

/-! ### Slow-start history: two segments plus everything acknowledged (clause of C05 that lives in the controller) -/

/-- Events that are not a loss signal: acknowledgements and window updates. -/
def Ev.lossFree : Ev → Prop
  | .ack .. => True
  | .setRwnd _ => True
  | _ => False

def acked : List Ev → Nat
  | [] => 0
  | .ack _ len _ :: es => len + acked es
  | _ :: es => acked es

def maxLen : List Ev → Nat
  | [] => 0
  | .ack _ len _ :: es => max len (maxLen es)
  | _ :: es => maxLen es

def acks : List Ev → Nat
  | [] => 0
  | .ack .. :: es => 1 + acks es
  | _ :: es => acks es

theorem acks_le_length (evs : List Ev) : acks evs ≤ evs.length := by
  induction evs with
  | nil => exact Nat.le_refl _
  | cons ev es ih => cases ev <;> simp only [acks, List.length_cons] <;> omega

/-- Invariant of a loss-free run from a fresh controller: still in slow start with no threshold set, everything
finite, and `cwnd.max(2.) * mss` (bytes before `as usize`) within the budget `b`. -/
structure SS (e : FEnv) (c : Cubic) (b : Nat) : Prop where
  mssPos : 0 < c.mss
  mssRep : e.rnd c.mss = c.mss
  ss : c.ssthresh = .pinf
  rw : ∃ r, c.rwnd = .fin r
  cw : ∃ q, c.cwnd = .fin q ∧ 0 ≤ q ∧ e.rnd (max q 2 * c.mss) ≤ b

section
variable {e : FEnv} {c : Cubic} {b : Nat}

theorem SS.new (now : Nat) {mss : Nat} (hm : 0 < mss) (h1 : e.rnd mss = mss)
    (h2 : e.rnd ((2 * mss : Nat) : Rat) = (2 * mss : Nat)) : SS e (Cubic.new now mss) (2 * mss) :=
  ⟨hm, h1, rfl, ⟨0, rfl⟩, 2, by simp [Cubic.new, CUBIC_INITIAL_CWND], zero_le_two, by
    rw [max_self, ← h2]; push_cast; rfl⟩

theorem SS.mono {b' : Nat} (h : SS e c b) (hb : b ≤ b') : SS e c b' :=
  let ⟨q, hq, hq0, hle⟩ := h.cw
  ⟨h.mssPos, h.mssRep, h.ss, h.rw, q, hq, hq0, le_trans hle (Nat.cast_le.mpr hb)⟩

theorem SS.window_le (h : SS e c b) : c.window e ≤ b := by
  obtain ⟨q, hq, -, hle⟩ := h.cw
  rw [window_fin hq h.mssRep]
  exact le_trans (min_le_left _ _) (toUsize_le_nat hle)

theorem SS.setRwnd (h : SS e c b) (w : Nat) : SS e (c.setRemoteWindow e w) b :=
  ⟨h.mssPos, h.mssRep, h.ss, ⟨_, div_ofNat_mssF h.mssRep h.mssPos w⟩, h.cw⟩

-- (the three lemmas below take `R E hε hB hN` first, in this order)
variable {ε : Rat} (R : Rounding e.rnd) (E : RoundErr e.rnd ε) (hε : ε ≤ 1 / 2) {δ B : Nat}
  (hB : (B : Rat) * (8 * ε) ≤ δ) (hN : ∀ n : Nat, n ≤ B → e.rnd n = n)
include R E hε hB hN

theorem SS.ack (h : SS e c b) (now len rtt : Nat) (hb : 2 * b + len ≤ B) :
    SS e (c.onAck e now len rtt) (b + len + δ) := by
  obtain ⟨q, hq, hq0, hle⟩ := h.cw
  obtain ⟨r, hr⟩ := h.rw
  have hM0 := max_two_mul_nonneg q (Nat.cast_nonneg c.mss)
  -- rounding loses at most half: the magnitude is at most twice its rounded value, which the budget bounds
  have hK : (max q 2 * (c.mss : Rat) + len) * (8 * ε) ≤ δ := by
    have h1 := E.ge hM0
    have h2 := mul_le_mul_of_nonneg_left (show 1 / 2 ≤ 1 - ε by linarith) hM0
    have h3 : ((2 * b + len : Nat) : Rat) ≤ B := Nat.cast_le.mpr hb
    push_cast at h3
    exact le_trans (mul_le_mul_of_nonneg_right (by linarith only [h1, h2, h3, hle]) (mul_nonneg (by norm_num) E.pos)) hB
  obtain ⟨q', h', hq'0, hb'⟩ := ack_bytes R E (hε.trans (by norm_num)) hq hq0 hr h.mssPos h.mssRep
    (by rw [hq, h.ss]; rfl) now len rtt (hN len (by omega))
  rw [h']
  exact ⟨h.mssPos, h.mssRep, h.ss, ⟨r, hr⟩, q', rfl, hq'0,
    hb'.trans (by push_cast; exact add_le_add (add_le_add_left hle _) hK)⟩

theorem ss_run (evs : List Ev) (hev : ∀ ev ∈ evs, ev.lossFree) :
    ∀ (c : Cubic) (b : Nat), SS e c b → 2 * (b + acked evs + δ * acks evs) + maxLen evs ≤ B →
      SS e (run e c evs) (b + acked evs + δ * acks evs) := by
  induction evs with
  | nil => exact fun c b h _ => h
  | cons ev es ih =>
    intro c b h hbig
    have ih := ih (fun x hx => hev x (List.mem_cons_of_mem _ hx))
    cases ev with
    | ack now len rtt =>
      simp only [acked, maxLen, acks, Nat.mul_add, Nat.mul_one] at hbig ⊢
      exact (ih _ _ (h.ack R E hε hB hN now len rtt (by omega)) (by omega)).mono (by omega)
    | setRwnd w => exact ih _ _ (h.setRwnd w) hbig
    | rto | enter _ | recovered _ _ | setMss _ => exact (hev _ List.mem_cons_self).elim

/-- Slow-start history for any arithmetic: `δ` extra bytes per acknowledgement, where `δ` bounds the error term at the
largest magnitude `B` the run reaches and naturals up to `B` are representable (`δ = 0` when `ε = 0`; `δ = 1`, `B = 2⁵⁰`
for binary64). -/
theorem slow_start_history_bound (now : Nat) {mss : Nat} (hm : 0 < mss) (evs : List Ev) (hev : ∀ ev ∈ evs, ev.lossFree)
    (hbig : 2 * (2 * mss + acked evs + δ * acks evs) + maxLen evs ≤ B) :
    (run e (Cubic.new now mss) evs).window e ≤ 2 * mss + acked evs + δ * acks evs :=
  (ss_run R E hε hB hN evs hev _ _ (SS.new now hm (hN mss (by omega)) (hN (2 * mss) (by omega))) hbig).window_le
end

/-- **C05/C15, slow-start history (exact arithmetic).** From a fresh controller, after ANY sequence of
acknowledgements and window updates with no loss signal in it, `window()` is at most two segments plus the
bytes acknowledged so far. -/
theorem slow_start_history_exact (cb : Rat → Rat) (now mss : Nat) (hm : 0 < mss) (hu : 2 * mss ≤ U64MAX)
    (evs : List Ev) (hev : ∀ ev ∈ evs, ev.lossFree) :
    (run (exact cb) (Cubic.new now mss) evs).window (exact cb) ≤ 2 * mss + acked evs := by
  simpa using slow_start_history_bound (e := exact cb) rounding_id roundErr_id (by norm_num) (δ := 0) (by simp)
    (fun _ _ => rfl) now hm evs hev le_rfl

example : acked [.setRwnd 1000000, .ack 0 1000 5, .ack 1 400 5] = 1400 := rfl

/-- **C05/C15, slow-start history under binary64-style rounding.** From a fresh controller, after ANY sequence of
acknowledgements and window updates with no loss signal in it, `window()` is at most two segments plus the bytes
acknowledged so far plus ONE byte per acknowledgement processed (D15 shows the extra byte does occur) - for every
rounding operator with relative error ≤ 2⁻⁵³ and totals below 2⁴⁸. -/
theorem slow_start_history_within_one_byte_per_ack {e : FEnv} {ε : Rat} (R : Rounding e.rnd) (E : RoundErr e.rnd ε)
    (hε : ε * 2 ^ 53 ≤ 1) (now mss : Nat) (hm : 0 < mss)
    (evs : List Ev) (hev : ∀ ev ∈ evs, ev.lossFree)
    (hbig : 2 * (2 * mss + acked evs + evs.length + 1) + maxLen evs ≤ 2 ^ 50) :
    (run e (Cubic.new now mss) evs).window e ≤ 2 * mss + acked evs + evs.length := by
  have hl := acks_le_length evs   -- one byte per acknowledgement, hence at most one per event
  have := slow_start_history_bound R E (by linarith [E.pos]) (δ := 1) (B := 2 ^ 50)
    (by exact_mod_cast scale_le_one E.pos hε le_rfl) (fun n hn => R.exactNat n (by omega)) now hm evs hev (by omega)
  omega

example : RoundErr id 0 := roundErr_id

example : Inv (exact id) (Cubic.new 0 1400) := new_inv _ rounding_id 0 1400 (by norm_num) (by norm_num)

example : (run (exact id) (Cubic.new 0 1400) [.setRwnd 100000, .ack 5 1400 50]).window (exact id) = 4200 := by
  decide +kernel

/-! ### Known finding D15: with binary64 rounding the slow-start clause is FALSE (by one byte)

Negation witness, evaluated by the kernel with the executable round-to-nearest-even `rnd53`: MSS 1432, peer
window 1 MiB; an ACK of 1 byte leaves `window()` at 2864, the next ACK of 1432 bytes takes it to 4297:
growth 1433 > 1432. The same four operations are replayed on the implementation on every run
(`corpus/cubic/known_d15_slow_start_rounding.ops`). -/

def d15Before : Cubic := run fenv53 (Cubic.new 0 1432) [.setRwnd 1048576, .ack 0 1 50000000]

theorem d15_slow_start_exceeds_by_one_byte :
    d15Before.window fenv53 = 2864 ∧ XR.lt d15Before.cwnd d15Before.ssthresh = true ∧
    (d15Before.onAck fenv53 0 1432 50000000).window fenv53 = 2864 + 1432 + 1 := by
  decide +kernel

end UtpVerif.Props.C15
