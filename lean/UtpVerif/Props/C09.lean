import UtpVerif.Model.SeqNr
import UtpVerif.Gen.Fns
/-!
# C09 — behaviour invariant under initial sequence numbers (16-bit wrap safety)

Arithmetic part: for *all* pairs of 16-bit values (no enumeration: `omega`).
The relabelling part for components is in `Props/C09Shift.lean` (later layers).
-/
namespace UtpVerif.Props.C09
open UtpVerif.Model UtpVerif.Gen

theorem wadd_lt (a d : Nat) : wadd a d < 65536 := by unfold wadd; omega

/-- The specification distance is what it says: congruent to `a - b` mod 2^16 and in `(-32768, 32768]`. -/
theorem modDist_spec (a b : Nat) (ha : a < 65536) (_hb : b < 65536) :
    -32768 < modDist a b ∧ modDist a b ≤ 32768 ∧
    (modDist a b - ((a : Int) - b)) % 65536 = 0 := by
  unfold modDist wsub
  simp only
  split <;> omega

/-- With `modDist_spec`, all that is used of `modDist` below: it is not unfolded again. -/
theorem modDist_unique {a b : Nat} {d : Int} (ha : a < 65536) (hb : b < 65536) (h1 : -32768 < d) (h2 : d ≤ 32768)
    (h3 : (d - ((a : Int) - b)) % 65536 = 0) : modDist a b = d := by
  have := modDist_spec a b ha hb
  omega

theorem modDist_eq_zero (a b : Nat) (ha : a < 65536) (hb : b < 65536) : modDist a b = 0 ↔ a = b := by
  have := modDist_spec a b ha hb
  omega

theorem wsub_cast (a b : Nat) (ha : a < 65536) (hb : b < 65536) :
    (wsub a b : Int) = if a < b then (a : Int) - b + 65536 else a - b := by
  unfold wsub
  rw [Nat.mod_eq_of_lt hb]
  by_cases h : a < b
  · rw [if_pos h, Nat.mod_eq_of_lt (by omega)]
    omega
  · have h := Nat.le_of_not_lt h
    rw [if_neg (Nat.not_lt.mpr h), Nat.sub_add_comm h, Nat.add_mod_right,
      Nat.mod_eq_of_lt (Nat.lt_of_le_of_lt (Nat.sub_le a b) ha), Int.ofNat_sub h]

/-- What `seq_nr_offset` computes: the true modular distance when that is within the tolerance, and the *plain*
(non-modular) difference otherwise - the ISN-dependent regime. All 2^32 pairs at once; every law below is
read off this equation. -/
theorem seqOffset_eq (a b tol : Nat) (ha : a < 65536) (hb : b < 65536) (htol : tol ≤ 32767) :
    seqOffset a b tol = if (modDist a b).natAbs ≤ tol then modDist a b else (a : Int) - b := by
  -- With `w = wsub a b` and `w' = wsub b a` as numbers each branch of the function is compared with the branch of
  -- `modDist` it falls into. (One `omega` over the unfolded terms costs ten times as much, and so does `simp only` for
  -- the `rw`s: it changes the `Decidable` instances of the `if`s, which the closing `rfl` then has to compare.)
  have hw := wsub_cast a b ha hb
  have hw' := wsub_cast b a hb ha
  unfold seqOffset modDist
  dsimp only
  generalize wsub a b = w at hw ⊢
  generalize wsub b a = w' at hw' ⊢
  rcases Nat.lt_trichotomy a b with hab | hab | hab
  · -- `a - b = w - 2^16 < 0`: up to 32768 the distance is `w`, beyond that `a - b` (and `w` is past the tolerance)
    rw [if_pos hab] at hw ⊢
    rw [Int.ofNat_sub (Nat.le_of_lt hab), Int.neg_sub]
    by_cases h : w ≤ 32768
    · rw [if_pos h, Int.natAbs_natCast]
    · rw [if_neg h, if_neg (show ¬ w ≤ tol by omega), show (w : Int) - 65536 = a - b by omega, ite_self]
  · subst hab
    rw [if_neg (Nat.lt_irrefl a), Int.sub_self] at hw
    rw [if_neg (Nat.lt_irrefl a), if_pos rfl, if_pos (show w ≤ 32768 by omega), hw, Int.sub_self, ite_self]
  · -- `a - b = w = 2^16 - w' > 0`: up to 32768 the distance is `a - b` (and `w'` is past the tolerance), beyond that `-w'`
    rw [if_neg (Nat.lt_asymm hab)] at hw ⊢
    rw [if_pos hab] at hw'
    rw [if_neg (Nat.ne_of_gt hab), Int.ofNat_sub (Nat.le_of_lt hab), ← hw]
    by_cases h : w ≤ 32768
    · rw [if_pos h, ite_self, if_neg (show ¬ w' ≤ tol by omega)]
    · rw [if_neg h, show (w : Int) - 65536 = -w' by omega, Int.natAbs_neg, Int.natAbs_natCast]

/-- **Distance agrees with true modular distance** whenever that distance is within the tolerance
(any tolerance up to 32767). -/
theorem seqOffset_eq_modDist (a b tol : Nat) (ha : a < 65536) (hb : b < 65536)
    (htol : tol ≤ 32767) (hd : (modDist a b).natAbs ≤ tol) :
    seqOffset a b tol = modDist a b := by
  rw [seqOffset_eq a b tol ha hb htol, if_pos hd]

/-- Outside the tolerance the function returns the *plain* (non-modular) difference: this is
the ISN-dependent regime. -/
theorem seqOffset_outside (a b tol : Nat) (ha : a < 65536) (hb : b < 65536)
    (htol : tol ≤ 32767) (hd : tol < (modDist a b).natAbs) :
    seqOffset a b tol = (a : Int) - b := by
  rw [seqOffset_eq a b tol ha hb htol, if_neg (Nat.not_le.mpr hd)]

/-- **Ordering agrees with the sign of the true modular distance** within tolerance. -/
theorem order_agrees (a b tol : Nat) (ha : a < 65536) (hb : b < 65536)
    (htol : tol ≤ 32767) (hd : (modDist a b).natAbs ≤ tol) :
    (seqOffset a b tol < 0 ↔ modDist a b < 0) ∧
    (seqOffset a b tol = 0 ↔ a = b) ∧
    (seqOffset a b tol > 0 ↔ modDist a b > 0) := by
  rw [seqOffset_eq_modDist a b tol ha hb htol hd]
  exact ⟨Iff.rfl, modDist_eq_zero a b ha hb, Iff.rfl⟩

theorem seqOffset_eq_of_congr {a b tol : Nat} {d : Int} (ha : a < 65536) (hb : b < 65536) (htol : tol ≤ 32767)
    (hd : d.natAbs ≤ tol) (h : (d - ((a : Int) - b)) % 65536 = 0) : seqOffset a b tol = d := by
  have hm : modDist a b = d := modDist_unique ha hb (by omega) (by omega) h
  rw [seqOffset_eq_modDist a b tol ha hb htol (hm.symm ▸ hd), hm]

theorem modDist_wadd (a b k : Nat) (ha : a < 65536) (hb : b < 65536) :
    modDist (wadd a k) (wadd b k) = modDist a b := by
  have h := modDist_spec a b ha hb
  refine modDist_unique (wadd_lt _ _) (wadd_lt _ _) h.1 h.2.1 ?_
  unfold wadd; omega

/-- **Shift (relabelling) lemma**: adding the same `k` to both 16-bit numbers (with wrap) does not
change the offset, whenever the true distance is within tolerance. This is what makes a run
started near 65535 equal to the run started at a small number with every number shifted. -/
theorem seqOffset_shift (a b k tol : Nat) (ha : a < 65536) (hb : b < 65536)
    (htol : tol ≤ 32767) (hd : (modDist a b).natAbs ≤ tol) :
    seqOffset (wadd a k) (wadd b k) tol = seqOffset a b tol := by
  have hk := modDist_wadd a b k ha hb
  rw [seqOffset_eq_modDist _ _ tol (wadd_lt _ _) (wadd_lt _ _) htol (hk.symm ▸ hd),
      seqOffset_eq_modDist _ _ tol ha hb htol hd, hk]

theorem seqOffset_antisymm (a b tol : Nat) (ha : a < 65536) (hb : b < 65536)
    (htol : tol ≤ 32767) (hd : (modDist a b).natAbs ≤ tol) :
    seqOffset b a tol = - seqOffset a b tol := by
  have h := (modDist_spec a b ha hb).2.2
  generalize modDist a b = d at hd h
  rw [seqOffset_eq_of_congr ha hb htol hd h]
  exact seqOffset_eq_of_congr hb ha htol (by rw [Int.natAbs_neg]; exact hd) (by omega)

/-- The reassembly-queue capacity (in sequence numbers) of a configuration: `rx_buf / mss₀`
(`UserRx::build`), where `mss₀` is the initial segment size for the address family. -/
def ooqCapacity (rxBuf mss0 : Nat) : Nat := if rxBuf / mss0 = 0 then 64 else rxBuf / mss0

def defaultMssV4 : Nat := min MIN_MTU_V4 DEFAULT_LINK_MTU - IPV4_HEADER - UDP_HEADER - UTP_HEADER
def defaultMssV6 : Nat := min MIN_MTU_V6 DEFAULT_LINK_MTU - IPV6_HEADER - UDP_HEADER - UTP_HEADER

/-- **Side condition that ties the arithmetic to the property text** ("for every distance the
configured windows allow"): with the crate's `WRAP_TOLERANCE`, the default configuration's
receive window (in packets, both address families) fits inside the tolerance, so every distance
a window-respecting peer can produce is computed as true modular distance.  This is the
obligation that fails for `WRAP_TOLERANCE = 1024` (1 MiB / 528 = 1985 > 1024). -/
theorem default_windows_within_tolerance :
    WRAP_TOLERANCE ≤ 32767 ∧
    ooqCapacity RX_BUF_SIZE_PER_VSOCK_DEFAULT defaultMssV4 ≤ WRAP_TOLERANCE ∧
    ooqCapacity RX_BUF_SIZE_PER_VSOCK_DEFAULT defaultMssV6 ≤ WRAP_TOLERANCE := by
  decide

theorem wrap_tolerance_value : WRAP_TOLERANCE = 32767 := rfl

theorem wrap_tolerance_le : WRAP_TOLERANCE ≤ 32767 := default_windows_within_tolerance.1

/-- **The same side condition for the sending side (D25).** The sender measures `last_sent_seq_nr − snd_una`, the
offsets of its segments and its FIN's number against `snd_una`: distances up to the number of queued segments + 1.
Since D25 the segmentation loop stops at `MAX_TX_SEGMENTS` (`C10Inv.segmentLoop_len_bound`); this is the obligation
that ties that cap to the tolerance. Before D25 no such constant existed: the buffer size in *bytes* was the only
bound, and one-byte segments (Nagle off) took the queue past 32767. -/
theorem tx_queue_cap_within_tolerance : MAX_TX_SEGMENTS + 1 ≤ WRAP_TOLERANCE := by decide

/-- The crate's `SeqNr - SeqNr` is true modular distance for every distance up to the crate
tolerance (corollary, pinned to the regenerated constant). -/
theorem seqSub_eq_modDist (a b : Nat) (ha : a < 65536) (hb : b < 65536)
    (hd : (modDist a b).natAbs ≤ WRAP_TOLERANCE) : seqSub a b = modDist a b :=
  seqOffset_eq_modDist a b _ ha hb wrap_tolerance_le hd

theorem seqSub_congr (a b : Nat) (ha : a < 65536) (hb : b < 65536) : (seqSub a b - ((a : Int) - b)) % 65536 = 0 := by
  rw [seqSub, seqOffset_eq a b _ ha hb wrap_tolerance_le]
  split
  · exact (modDist_spec a b ha hb).2.2
  · rw [Int.sub_self]
    rfl

theorem seqSub_eq_of_congr {a b : Nat} {d : Int} (ha : a < 65536) (hb : b < 65536) (hd : d.natAbs ≤ WRAP_TOLERANCE)
    (h : (d - ((a : Int) - b)) % 65536 = 0) : seqSub a b = d :=
  seqOffset_eq_of_congr ha hb wrap_tolerance_le hd h

/-- The crate's `Ord for SeqNr` agrees with modular order for every distance a window allows. -/
theorem seqOrd_agrees (a b : Nat) (ha : a < 65536) (hb : b < 65536)
    (hd : (modDist a b).natAbs ≤ WRAP_TOLERANCE) :
    (seqLt a b = true ↔ modDist a b < 0) ∧ (seqGt a b = true ↔ modDist a b > 0) := by
  unfold seqLt seqGt
  rw [seqSub_eq_modDist a b ha hb hd]
  exact ⟨decide_eq_true_iff, decide_eq_true_iff⟩

theorem seqOffset_add_of_sum_le (a b c tol : Nat) (ha : a < 65536) (hb : b < 65536) (hc : c < 65536)
    (htol : tol ≤ 32767) (h : (modDist a b).natAbs + (modDist b c).natAbs ≤ tol) :
    seqOffset a c tol = seqOffset a b tol + seqOffset b c tol := by
  have h1 := (modDist_spec a b ha hb).2.2
  have h2 := (modDist_spec b c hb hc).2.2
  generalize modDist a b = d at h h1
  generalize modDist b c = e at h h2
  rw [seqOffset_eq_of_congr ha hb htol (Nat.le_trans (Nat.le_add_right _ _) h) h1,
    seqOffset_eq_of_congr hb hc htol (Nat.le_trans (Nat.le_add_left _ _) h) h2]
  exact seqOffset_eq_of_congr ha hc htol (Nat.le_trans (Int.natAbs_add_le d e) h) (by omega)

/-- **Distances add up (triangle equality)**: for three 16-bit numbers whose pairwise true distances stay within
half the tolerance budget, `a − c = (a − b) + (b − c)`. Consumers compare three numbers at once (`ack_nr`,
`snd_una`, `last_sent_seq_nr`; the receive offset against `ack_nr` and the queue capacity): this is what lets the
invariants of `C10Inv` be carried as plain integers. All 2^48 triples at once. -/
theorem seqOffset_add (a b c tol : Nat) (ha : a < 65536) (hb : b < 65536) (hc : c < 65536)
    (htol : tol ≤ 32767) (h1 : 2 * (modDist a b).natAbs ≤ tol) (h2 : 2 * (modDist b c).natAbs ≤ tol) :
    seqOffset a c tol = seqOffset a b tol + seqOffset b c tol :=
  seqOffset_add_of_sum_le a b c tol ha hb hc htol (by omega)

/-- (`seqLt_trans` below has half the tolerance for each leg; all that is needed is that the two legs together stay
within it) -/
theorem seqLt_trans_of_sum_le (a b c : Nat) (ha : a < 65536) (hb : b < 65536) (hc : c < 65536)
    (h : (modDist a b).natAbs + (modDist b c).natAbs ≤ WRAP_TOLERANCE)
    (hab : seqLt a b = true) (hbc : seqLt b c = true) : seqLt a c = true := by
  have h := seqOffset_add_of_sum_le a b c WRAP_TOLERANCE ha hb hc wrap_tolerance_le h
  unfold seqLt seqSub at *
  simp only [decide_eq_true_eq] at *
  omega

/-- **The crate's `Ord for SeqNr` is transitive inside a window**: `a < b` and `b < c` give `a < c` whenever both
distances are at most half the crate tolerance (16383 numbers: above the default receive window of 1985 packets,
and `a < c` is then itself a distance within the tolerance). Outside a window a cyclic order cannot be transitive
(`seqLt_not_transitive_across_half`). -/
theorem seqLt_trans (a b c : Nat) (ha : a < 65536) (hb : b < 65536) (hc : c < 65536)
    (h1 : 2 * (modDist a b).natAbs ≤ WRAP_TOLERANCE) (h2 : 2 * (modDist b c).natAbs ≤ WRAP_TOLERANCE)
    (hab : seqLt a b = true) (hbc : seqLt b c = true) : seqLt a c = true :=
  seqLt_trans_of_sum_le a b c ha hb hc (by omega) hab hbc

/-- **Trichotomy inside a window**: exactly one of `a < b`, `a = b`, `a > b` holds, and `a < b ↔ b > a`. Together
with `seqLt_trans` the crate's comparison is a strict total order on every window-sized set of numbers. -/
theorem seqOrd_trichotomy (a b : Nat) (ha : a < 65536) (hb : b < 65536)
    (hd : (modDist a b).natAbs ≤ WRAP_TOLERANCE) :
    ((seqLt a b = true ∧ a ≠ b ∧ seqGt a b = false) ∨ (seqLt a b = false ∧ a = b ∧ seqGt a b = false) ∨
     (seqLt a b = false ∧ a ≠ b ∧ seqGt a b = true)) ∧ (seqLt a b = seqGt b a) := by
  have ht := wrap_tolerance_le
  have e := modDist_eq_zero a b ha hb
  unfold seqLt seqGt seqSub
  rw [seqOffset_antisymm a b _ ha hb ht hd, seqOffset_eq_modDist a b _ ha hb ht hd]
  generalize modDist a b = d at e
  simp only [decide_eq_true_eq, decide_eq_false_iff_not, decide_eq_decide]
  omega

/-- A cyclic 16-bit order cannot be transitive across half the ring: the window hypothesis of `seqLt_trans` is
needed, not an artefact (witness under the crate's tolerance). -/
theorem seqLt_not_transitive_across_half :
    seqLt 0 20000 = true ∧ seqLt 20000 40000 = true ∧ seqLt 40000 0 = true := by decide

-- Non-vacuity of the window hypotheses on a wrap-crossing triple.
example : 2 * (modDist 65530 3).natAbs ≤ WRAP_TOLERANCE ∧ 2 * (modDist 3 40).natAbs ≤ WRAP_TOLERANCE ∧
    seqLt 65530 3 = true ∧ seqLt 3 40 = true ∧ seqLt 65530 40 = true := by decide

-- Non-vacuity: hypotheses are satisfiable on a wrap-crossing pair.
example : seqOffset 3 65530 1024 = 9 ∧ modDist 3 65530 = 9 ∧ (modDist 3 65530).natAbs ≤ 1024 := by decide
example : seqOffset (wadd 65530 10) (wadd 65520 10) 1024 = seqOffset 65530 65520 1024 := by decide

/-- Witness of the ISN-dependent regime (the D3 finding): a packet 1500 ahead is "+1500" when the
numbers do not wrap and "-64036" when they do, under tolerance 1024. Kept as a regression fact
about the *function*; `default_windows_within_tolerance` is what rules it out for the crate. -/
theorem isn_dependent_beyond_tolerance :
    seqOffset 1501 1 1024 = 1500 ∧ seqOffset 964 65000 1024 = -64036 := by decide

/-! ### Tie 1b: the model function equals the definition regenerated from the Rust source on every run (DESIGN §2) -/

theorem generated_seq_nr_offset (new old tol : Nat) :
    UtpVerif.Gen.Fns.seqNrOffset new old tol = seqOffset new old tol := by
  unfold UtpVerif.Gen.Fns.seqNrOffset seqOffset wsub
  rfl

end UtpVerif.Props.C09
