import UtpVerif.Lemmas.VSock
/-!
# C05 — sender obeys the peer's advertised window and slow-start growth

`newDataLoop` is the final loop of `send_tx_queue` (stream_dispatch.rs:567-637): first transmissions.
Its budget is `min(cwnd, last_remote_window) − flight_size` outside recovery.
-/
namespace UtpVerif.Props.C05
open UtpVerif.Model UtpVerif.Model.VSock UtpVerif.Lemmas.VSock

/-- Payload bytes of the datagrams `c1` has accepted beyond those of `c0`. -/
def sentPayload (c0 c1 : Ctx) : Nat := ((c1.out.drop c0.out.length).map (fun d => d.length - 20)).sum

/-- Number of datagrams accepted by the transport. -/
def nOut (c : Ctx) : Nat := c.out.length

theorem payload_sum {ds : List (List Nat)} {sent : List SegView}
    (h : ds.map (·.length) = sent.map (fun s => 20 + s.seg.payloadSize)) :
    (ds.map (fun d => d.length - 20)).sum = (sent.map (·.seg.payloadSize)).sum := by
  have : ds.map (fun d => d.length - 20) = (ds.map (·.length)).map (· - 20) := by simp
  rw [this, h, List.map_map]
  simp only [Function.comp_def, Nat.add_sub_cancel_left]

/-- **After a zero window nothing new is sent**: the budget is `min(cwnd, 0) − flight = 0`. -/
theorem zero_window_sends_nothing (h : Header) (views : List SegView) (v : VSock) (c : Ctx)
    (hpos : ∀ s ∈ views, 1 ≤ s.seg.payloadSize) (v' : VSock) (c' : Ctx) (r : Option (Nat × Nat))
    (w flight : Nat) (hl : newDataLoop h views v c (min w 0 - flight) = .ok (v', c', r)) : nOut c' = nOut c := by
  -- every view sent has at least a byte (`hpos`, carried by the run) and the budget `min w 0 - flight` is 0
  obtain ⟨sent, hrun, hsum⟩ := newDataLoop_run hpos hl
  obtain ⟨ds, hds, hlen⟩ := hrun.out
  cases sent with
  | nil => rw [List.map_nil, List.map_eq_nil_iff] at hlen; simp [nOut, hds, hlen]
  | cons s ss =>
    have := hrun.all s List.mem_cons_self
    simp only [List.map_cons, List.sum_cons] at hsum
    omega

/-- The budget formula itself (stream_dispatch.rs:567-578): outside recovery it is
`min(window(), last_remote_window).saturating_sub(flight_size)`; in particular it never exceeds the
peer's advertised window minus what is in flight. -/
theorem budget_within_peer_window (w lrw flight : Nat) : min w lrw - flight ≤ lrw - flight :=
  Nat.sub_le_sub_right (Nat.min_le_right _ _) _

/-- **While the RTO counter is set nothing is sent by the recovery / new-data parts** of `send_tx_queue`:
it returns right after the (possible) RTO retransmission. -/
theorem rto_mode_blocks_sending (v : VSock) (c : Ctx) (hp : v.transportPending = false)
    (hnotexp : Timer.expired v.timers.retransmit v.pollNow = false) (hr : v.rtoRetransmissions > 0) :
    v.sendTxQueue c = .ok (v, c) := by
  unfold sendTxQueue
  simp [hp, hnotexp, hr, pure, Except.pure, bind, Except.bind]

/-- **First transmissions never exceed the byte budget**: the datagrams the loop hands to the transport are
appended in order and their payload bytes sum to at most `remaining`. -/
theorem newDataLoop_bytes (h : Header) (views : List SegView) (v : VSock) (c : Ctx) (remaining : Nat)
    (v' : VSock) (c' : Ctx) (r : Option (Nat × Nat))
    (hl : newDataLoop h views v c remaining = .ok (v', c', r)) :
    ∃ ds, c'.out = c.out ++ ds ∧ (ds.map (fun d => d.length - 20)).sum ≤ remaining := by
  obtain ⟨sent, hrun, hsum⟩ := newDataLoop_run (V := fun _ => True) (fun _ _ => trivial) hl
  obtain ⟨ds, hds, hlen⟩ := hrun.out
  exact ⟨ds, hds, payload_sum hlen ▸ hsum⟩

theorem newDataLoop_sentPayload {h : Header} {views : List SegView} {v : VSock} {c : Ctx} {remaining : Nat}
    {v' : VSock} {c' : Ctx} {r : Option (Nat × Nat)}
    (hl : newDataLoop h views v c remaining = .ok (v', c', r)) : sentPayload c c' ≤ remaining := by
  obtain ⟨ds, hds, hsum⟩ := newDataLoop_bytes h views v c remaining v' c' r hl
  unfold sentPayload
  rw [hds, List.drop_left]
  exact hsum

/-- One pass of `send_tx_queue` outside loss recovery and RTO retransmission puts at most the budget
`min(cwnd, peer window) − flight` on the wire (`cwnd` = the controller's `window()` answer). -/
theorem first_transmissions_within_budget (v : VSock) (c : Ctx) (v' : VSock) (c' : Ctx)
    (hp : v.transportPending = false) (hne : Timer.expired v.timers.retransmit v.pollNow = false)
    (hr : v.rtoRetransmissions = 0) (hph : ∀ rec, v.recovery.phase ≠ .recovering rec)
    (hs : v.sendTxQueue c = .ok (v', c')) :
    sentPayload c c' ≤ min (c.cc.read "window").1 v.lastRemoteWindow - v.segs.calcFlightSize v.lastSentSeqNr := by
  have hrc : v.recovery.remainingCwnd v.lastRemoteWindow = none := by
    unfold Recovery.remainingCwnd
    split
    · exact absurd ‹_› (hph _)
    · rfl
  unfold sendTxQueue at hs
  -- (the `match` on `recovery.phase` is decided by `hph`, which `simp` takes from the context)
  simp only [hp, hne, hr, hrc, Bool.false_eq_true, if_false, pure_bind, Nat.lt_irrefl] at hs
  -- every exit hands back either `c` itself or the context the first-transmission loop ended with
  by_cases hem : v.segs.segs.isEmpty = true
  · rw [if_pos hem] at hs; cases hs; exact (show sentPayload c c = 0 by simp [sentPayload]) ▸ Nat.zero_le _
  rw [if_neg hem] at hs
  split at hs
  · cases hs
  split at hs
  · cases hs
  -- (`(… :)`: the loop ran from `{ c with cc := … }`, and `sentPayload` reads `.out` only)
  · rename_i hl; cases hs; exact (newDataLoop_sentPayload hl :)
  · rename_i v1 c1 seqNr size hl
    have : c' = c1 := by split at hs <;> split at hs <;> cases hs <;> rfl
    exact this ▸ (newDataLoop_sentPayload hl :)

/-- **Bytes in flight stay within the peer's advertised window** (ordinary sending: no loss recovery or RTO
retransmission in progress). Whatever `send_tx_queue` transmits in one pass, (bytes in flight before) + (payload
bytes put on the wire by this pass) ≤ the peer's last advertised window — unless more than that was already in
flight (the peer shrank its window), in which case nothing at all is sent. -/
theorem first_transmissions_within_peer_window (v : VSock) (c : Ctx) (v' : VSock) (c' : Ctx)
    (hp : v.transportPending = false) (hne : Timer.expired v.timers.retransmit v.pollNow = false)
    (hr : v.rtoRetransmissions = 0) (hph : ∀ rec, v.recovery.phase ≠ .recovering rec)
    (hs : v.sendTxQueue c = .ok (v', c')) :
    sentPayload c c' + v.segs.calcFlightSize v.lastSentSeqNr ≤
      max (v.segs.calcFlightSize v.lastSentSeqNr) v.lastRemoteWindow := by
  have := first_transmissions_within_budget v c v' c' hp hne hr hph hs
  omega

/-- **Loss recovery is paced by the pipe** (rfc6675 §5 step C): apart from the single retransmission that
entering recovery triggers (`total_retransmitted_segments = 0`), the recovery loop retransmits only while the
window left over the pipe estimate exceeds one segment, and charges every retransmission to it; with segments of
at most `mss` bytes the payload it puts on the wire in one pass is at most that window (plus one segment for
the entry retransmission). -/
theorem recoveryLoop_bytes (h : Header) (mss : Nat) (views : List SegView) (v : VSock) (c : Ctx) (l : RecLoop)
    (hsz : ∀ s ∈ views, s.seg.payloadSize ≤ mss)
    (v' : VSock) (c' : Ctx) (l' : RecLoop) (p : Bool)
    (hl : recoveryLoop h mss views v c l = .ok (v', c', l', p)) :
    ∃ ds, c'.out = c.out ++ ds ∧
      (ds.map (fun d => d.length - 20)).sum ≤ l.cwnd + (if l.st.totalRetransmittedSegments = 0 then mss else 0) := by
  obtain ⟨sent, hrun, hsum⟩ := recoveryLoop_run hsz hl
  obtain ⟨ds, hds, hlen⟩ := hrun.out
  exact ⟨ds, hds, payload_sum hlen ▸ hsum hrun.all⟩
end UtpVerif.Props.C05
