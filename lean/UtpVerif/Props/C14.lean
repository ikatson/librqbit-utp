import UtpVerif.Model.Mtu
import UtpVerif.Gen.Fns
/-!
# C14 — path-MTU discovery is safe and converges (segment-size component)

The state is a search interval `[min_ss, max_ss]`.  Every operation, with arbitrary arguments (in
particular arbitrary sizes used by the peer), maps a well-formed interval to a well-formed
sub-interval (`Narrowed`, `step_narrows`); safety (`Inv`: the interval lies in `[1, ceiling(link MTU)]`),
monotonicity and "closed stays closed" are read off that one relation along a run (`run_narrows`).
`next_probe` bisects the interval (`nextProbe_bisects`), which is all that convergence against a
consistent path oracle uses.  The segmentation-side clauses are not here: the sizes the loop enqueues are in
`Props/C18` (`pass_sizes`, `segment_sizes`); that at most one probe is outstanding, as the newest segment, is checked in
lockstep only.
-/
namespace UtpVerif.Props.C14
open UtpVerif.Model UtpVerif.Model.SegSizes UtpVerif.Gen

inductive Op where
  | delivered (payload : Nat)     -- `on_payload_delivered`, any size (peer-controlled)
  | next                          -- `next_segment_size`
  | failed (size : Nat)           -- `on_probe_failed`
  | disarm
deriving Repr

def step (s : SegSizes) : Op → SegSizes
  | .delivered p => s.onPayloadDelivered p
  | .next => s.nextSegmentSize.1
  | .failed n => s.onProbeFailed n
  | .disarm => s.disarmCooldown

def Inv (ceil : Nat) (s : SegSizes) : Prop := 1 ≤ s.minSs ∧ s.minSs ≤ s.maxSs ∧ s.maxSs ≤ ceil

theorem constants_pinned :
    IPV4_HEADER = 20 ∧ IPV6_HEADER = 40 ∧ UDP_HEADER = 8 ∧ UTP_HEADER = 20 ∧
    MIN_MTU_V4 = 576 ∧ MIN_MTU_V6 = 1280 := by decide

/-- The ceiling is what the link MTU leaves after IP, UDP and uTP headers (at least one byte). -/
theorem ceiling_spec (isV4 : Bool) (linkMtu : Nat) :
    ceiling isV4 linkMtu + (ipHeader isV4 + UDP_HEADER + UTP_HEADER) =
      max linkMtu (ipHeader isV4 + UDP_HEADER + UTP_HEADER + 1) := by
  unfold ceiling; omega

theorem ceiling_lt_u16 (isV4 : Bool) (linkMtu : Nat) (h : linkMtu < 65536) : ceiling isV4 linkMtu < 65536 := by
  have := ceiling_spec isV4 linkMtu
  omega

/-- The one fact about the constants that `new` needs: the protocol minimum MTU leaves a payload byte. -/
theorem headers_lt_min_mtu (isV4 : Bool) :
    ipHeader isV4 + UDP_HEADER + UTP_HEADER + 1 ≤ (if isV4 then MIN_MTU_V4 else MIN_MTU_V6) := by
  cases isV4 <;> decide

theorem new_inv (isV4 : Bool) (linkMtu cd : Nat) : Inv (ceiling isV4 linkMtu) (new isV4 linkMtu cd) := by
  have := headers_lt_min_mtu isV4
  unfold Inv new ceiling
  simp only
  omega

/-- `s'` is a well-formed sub-interval of `s`. -/
def Narrowed (s s' : SegSizes) : Prop := s.minSs ≤ s'.minSs ∧ s'.minSs ≤ s'.maxSs ∧ s'.maxSs ≤ s.maxSs

theorem Narrowed.refl {s : SegSizes} (h : s.minSs ≤ s.maxSs) : Narrowed s s := ⟨Nat.le_refl _, h, Nat.le_refl _⟩

theorem Narrowed.trans {a b c : SegSizes} (h : Narrowed a b) (h' : Narrowed b c) : Narrowed a c :=
  ⟨Nat.le_trans h.1 h'.1, h'.2.1, Nat.le_trans h'.2.2 h.2.2⟩

theorem Inv.narrowed {ceil : Nat} {s s' : SegSizes} (h : Inv ceil s) (hn : Narrowed s s') : Inv ceil s' :=
  ⟨Nat.le_trans h.1 hn.1, hn.2.1, Nat.le_trans hn.2.2 h.2.2⟩

theorem Narrowed.closed {s s' : SegSizes} (hn : Narrowed s s') (hc : s.minSs = s.maxSs) :
    s'.minSs = s.minSs ∧ s'.maxSs = s.maxSs := by
  unfold Narrowed at hn; omega

theorem step_narrows (s : SegSizes) (op : Op) (h : s.minSs ≤ s.maxSs) : Narrowed s (step s op) := by
  -- `(step s op).minSs` and `.maxSs` reduce to the `max`/`min` terms of `on_payload_delivered`/`on_probe_failed`
  cases op with
  | delivered p =>
    exact ⟨Nat.le_max_left _ _, Nat.le_max_right _ _,
      Nat.max_le.2 ⟨Nat.le_refl _, Nat.max_le.2 ⟨h, Nat.min_le_right _ _⟩⟩⟩
  | failed n => exact ⟨Nat.le_refl _, Nat.le_max_right _ _, Nat.max_le.2 ⟨Nat.min_le_left _ _, h⟩⟩
  | next => simp only [step, nextSegmentSize]; split <;> exact Narrowed.refl h
  | disarm => exact Narrowed.refl h

theorem run_narrows (ops : List Op) (s : SegSizes) (h : s.minSs ≤ s.maxSs) : Narrowed s (ops.foldl step s) :=
  List.foldlRecOn ops step (Narrowed.refl h) fun s' hs op _ => hs.trans (step_narrows s' op hs.2.1)

/-- **Safety for every history**: whatever sizes the peer uses and whatever probes fail, the proven
size and the probe ceiling stay between 1 and what the configured link MTU allows. -/
theorem sizes_within_link_ceiling (isV4 : Bool) (linkMtu cd : Nat) (ops : List Op) :
    Inv (ceiling isV4 linkMtu) (ops.foldl step (new isV4 linkMtu cd)) :=
  have h := new_inv isV4 linkMtu cd
  h.narrowed (run_narrows ops _ h.2.1)

/-- **The search only narrows, for every history**: whatever the peer sends and whatever probes fail or succeed, in
whatever order, the segment size in use (`min_ss`, the MSS) never goes down and the probe ceiling (`max_ss`) never
goes up. A size once proven by an acknowledgement is never given up again, and a size once refuted is never probed
again (`next_probe ≤ max_ss`, `next_segment_size_bounds`). -/
theorem search_only_narrows (ceil : Nat) (ops : List Op) (s : SegSizes) (h : Inv ceil s) :
    s.minSs ≤ (ops.foldl step s).minSs ∧ (ops.foldl step s).maxSs ≤ s.maxSs :=
  have hn := run_narrows ops s h.2.1
  ⟨hn.1, hn.2.2⟩

/-- (last two conjuncts: the halves cut off, `[next_probe, max_ss]` on success, `[min_ss, next_probe - 1]` on failure) -/
theorem nextProbe_bisects (s : SegSizes) (h : s.minSs ≤ s.maxSs) :
    s.minSs ≤ s.nextProbe ∧ s.nextProbe ≤ s.maxSs ∧ (s.minSs < s.nextProbe ↔ s.minSs < s.maxSs) ∧
    s.maxSs - s.nextProbe ≤ (s.maxSs - s.minSs) / 2 ∧ s.nextProbe - 1 - s.minSs ≤ (s.maxSs - s.minSs) / 2 := by
  unfold nextProbe; omega

theorem isProbing_closed {s : SegSizes} (h : s.minSs = s.maxSs) : s.isProbing = false := by
  simp [isProbing, nextProbe, h]

/-- Every size handed to segmentation is within the ceiling; an ordinary one equals the proven
size, a probe is strictly larger than it and at most `max_ss`. -/
theorem next_segment_size_bounds (ceil : Nat) (s : SegSizes) (h : Inv ceil s) :
    let r := s.nextSegmentSize
    r.2 ≤ ceil ∧ r.1.minSs = s.minSs ∧ r.1.maxSs = s.maxSs ∧
    (r.2 = s.minSs ∨ (s.minSs < r.2 ∧ r.2 ≤ s.maxSs)) := by
  have hp := nextProbe_bisects s h.2.1
  simp only [nextSegmentSize]
  split
  · exact ⟨Nat.le_trans hp.2.1 h.2.2, rfl, rfl, (Nat.eq_or_lt_of_le hp.1).imp Eq.symm fun h' => ⟨h', hp.2.1⟩⟩
  · exact ⟨Nat.le_trans h.2.1 h.2.2, rfl, rfl, Or.inl rfl⟩

/-- `next_probe` cannot overflow `u16`, and `max_ss - min_ss` cannot underflow. -/
theorem next_probe_no_overflow (ceil : Nat) (s : SegSizes) (h : Inv ceil s) (hc : ceil < 65536) :
    s.minSs + (s.maxSs - s.minSs) / 2 + 1 ≤ 65536 ∧ s.minSs ≤ s.maxSs ∧ s.nextProbe < 65536 := by
  have hp := (nextProbe_bisects s h.2.1).2.1
  unfold Inv at h; omega

/-- `skip_next_probe` (D23) touches only the cooldown. -/
theorem skipNextProbe_sizes (s : SegSizes) :
    s.skipNextProbe.minSs = s.minSs ∧ s.skipNextProbe.maxSs = s.maxSs ∧ 1 ≤ s.skipNextProbe.cooldownRemaining :=
  ⟨rfl, rfl, Nat.le_max_right _ _⟩

/-- Once the search has closed (`min_ss = max_ss`) it stays closed at that size: no later delivery, failure or
cooldown event re-opens probing. -/
theorem closed_search_stays_closed (ceil : Nat) (ops : List Op) (s : SegSizes) (h : Inv ceil s)
    (hc : s.minSs = s.maxSs) :
    (ops.foldl step s).minSs = s.minSs ∧ (ops.foldl step s).maxSs = s.maxSs ∧
    (ops.foldl step s).isProbing = false := by
  have he := (run_narrows ops s h.2.1).closed hc
  exact ⟨he.1, he.2, isProbing_closed (he.1.trans (hc.trans he.2.symm))⟩

-- Non-vacuity: a peer-sized delivery closes the search at the ceiling; a later failure does not re-open it.
example : Inv 1452 (new true 1500 5) ∧
    ([Op.next, .delivered 3000, .failed 991, .next].foldl step (new true 1500 5)).minSs = 1452 :=
  ⟨by unfold Inv; decide, by decide⟩

/-! ### Convergence against a consistent path oracle "size ≤ P passes" -/

def Brackets (P : Nat) (s : SegSizes) : Prop := s.minSs ≤ P ∧ P ≤ s.maxSs

def gap (s : SegSizes) : Nat := s.maxSs - s.minSs

theorem outcome_eq (P : Nat) (s : SegSizes) (hb : Brackets P s) (hu : s.maxSs < 65536) :
    s.outcome P = if s.nextProbe ≤ P then { s with minSs := s.nextProbe } else { s with maxSs := s.nextProbe - 1 } := by
  obtain ⟨h1, h2, -⟩ := nextProbe_bisects s (Nat.le_trans hb.1 hb.2)
  unfold Brackets at hb
  simp only [outcome, onPayloadDelivered, onProbeFailed]
  generalize s.nextProbe = m at *
  by_cases hP : m ≤ P
  · rw [if_pos hP, if_pos hP, Nat.min_eq_left h2, Nat.max_eq_right h1, Nat.max_eq_left h2]
  · rw [if_neg hP, if_neg hP, Nat.mod_eq_of_lt (Nat.lt_of_le_of_lt h2 hu), Nat.min_eq_right (by omega),
      Nat.max_eq_left (by omega)]

/-- **One probe outcome keeps the bracket and at least halves the gap.** -/
theorem outcome_halves (P : Nat) (s : SegSizes) (hb : Brackets P s) (hu : s.maxSs < 65536) :
    Brackets P (s.outcome P) ∧ (s.outcome P).maxSs < 65536 ∧ gap (s.outcome P) ≤ gap s / 2 := by
  have hp := nextProbe_bisects s (Nat.le_trans hb.1 hb.2)
  rw [outcome_eq P s hb hu]
  unfold Brackets gap at *
  split <;> simp only <;> omega

def outcomes (P : Nat) : Nat → SegSizes → SegSizes
  | 0, s => s
  | n + 1, s => outcomes P n (s.outcome P)

theorem outcomes_gap (P : Nat) (n : Nat) (s : SegSizes) (hb : Brackets P s) (hu : s.maxSs < 65536) :
    Brackets P (outcomes P n s) ∧ gap (outcomes P n s) ≤ gap s / 2 ^ n := by
  induction n generalizing s with
  | zero => exact ⟨hb, Nat.le_of_eq (Nat.div_one _).symm⟩
  | succ n ih =>
    obtain ⟨hb1, hu1, hg1⟩ := outcome_halves P s hb hu
    obtain ⟨hb2, hg2⟩ := ih _ hb1 hu1
    refine ⟨hb2, ?_⟩
    calc gap (outcomes P n (s.outcome P)) ≤ gap (s.outcome P) / 2 ^ n := hg2
      _ ≤ (gap s / 2) / 2 ^ n := Nat.div_le_div_right hg1
      _ = gap s / 2 ^ (n + 1) := by rw [Nat.div_div_eq_div_mul, Nat.pow_succ, Nat.mul_comm]

/-- **Convergence after a logarithmic number of probes**: once `2^n` exceeds the initial gap,
`n` probe outcomes leave `min_ss = max_ss = P` — the largest payload size that fits — and probing
has stopped. -/
theorem converges (P : Nat) (n : Nat) (s : SegSizes) (hb : Brackets P s) (hu : s.maxSs < 65536)
    (hn : gap s < 2 ^ n) :
    (outcomes P n s).minSs = P ∧ (outcomes P n s).maxSs = P ∧ (outcomes P n s).isProbing = false := by
  obtain ⟨hbr, hg⟩ := outcomes_gap P n s hb hu
  rw [Nat.div_eq_of_lt hn] at hg
  have hle := Nat.le_of_sub_eq_zero (Nat.le_zero.mp hg)
  have e1 := Nat.le_antisymm hbr.1 (Nat.le_trans hbr.2 hle)
  have e2 := Nat.le_antisymm (Nat.le_trans hle hbr.1) hbr.2
  exact ⟨e1, e2, isProbing_closed (e1.trans e2.symm)⟩

/-- Default IPv4 start (528 … 1452): 10 probe outcomes suffice, for every true path size. -/
theorem default_v4_converges_in_10 (P : Nat) (hP1 : 528 ≤ P) (hP2 : P ≤ 1452) :
    (outcomes P 10 (new true 1500 3)).minSs = P := by
  have hs : (new true 1500 3) = { minSs := 528, maxSs := 1452, cooldownRemaining := 1, cooldownMax := 3 } := by decide
  rw [hs]
  exact (converges P 10 _ ⟨hP1, hP2⟩ (by decide) (by decide)).1

-- Non-vacuity: the invariant is met by the default state and the path oracle really moves it.
example : Inv 1452 (new true 1500 3) := by unfold Inv; decide
example : (outcomes 1000 10 (new true 1500 3)).minSs = 1000 := by decide

/-! ### Tie 1b: the model functions equal the definitions regenerated from the Rust source on every run (DESIGN §2) -/

theorem generated_next_probe (s : SegSizes) : UtpVerif.Gen.Fns.nextProbe s.minSs s.maxSs = s.nextProbe := rfl

theorem generated_on_probe_failed (s : SegSizes) (size : Nat) :
    s.onProbeFailed size = { s with maxSs := UtpVerif.Gen.Fns.probeFailedMaxSs s.maxSs s.minSs size } := rfl

theorem generated_on_payload_delivered (s : SegSizes) (n : Nat) (h : s.maxSs < 65536) :
    s.onPayloadDelivered n =
      { s with minSs := UtpVerif.Gen.Fns.deliveredMinSs s.maxSs s.minSs n,
               maxSs := UtpVerif.Gen.Fns.deliveredMaxSs s.maxSs (UtpVerif.Gen.Fns.deliveredMinSs s.maxSs s.minSs n) } := by
  unfold SegSizes.onPayloadDelivered UtpVerif.Gen.Fns.deliveredMinSs UtpVerif.Gen.Fns.deliveredMaxSs
  have : min n s.maxSs % 65536 = min n s.maxSs := Nat.mod_eq_of_lt (by omega)
  simp only [this]

end UtpVerif.Props.C14
