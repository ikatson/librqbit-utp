import UtpVerif.Lemmas.TxRing
/-!
# C19 — send-side buffering is bounded; write applies back-pressure

`Hist` is a ghost history (every byte `poll_write` ever accepted, and how many bytes acknowledgement
processing removed).  The invariant ties the ring to it for *every* operation sequence, every
initial/maximum size.
-/
namespace UtpVerif.Props.C19
open UtpVerif.Model UtpVerif.Model.TxRing UtpVerif.Lemmas.TxRing

structure Hist where
  written : List Nat := []
  removed : Nat := 0

inductive Op where
  | write (buf : List Nat)
  | trunc (n : Nat)          -- acknowledgement processing, `n ≤` bytes held (guard at the call site)
  | grow
  | flush
  | shutdown
  | dropWriter
  | close
  | takeWriterWaker
  | registerDispatcher

/-- `maxSize` is the configured `vsock_tx_bufsize_bytes_max`. -/
def step (maxSize : Nat) (s : TxRing × Hist) : Op → TxRing × Hist
  | .write buf =>
    let (t', r, _) := s.1.pollWrite buf
    match r with
    | .ready n => (t', { s.2 with written := s.2.written ++ buf.take n })
    | _ => (t', s.2)
  | .trunc n =>
    if n ≤ s.1.ring.length then ((s.1.truncateFront n).1, { s.2 with removed := s.2.removed + n }) else s
  | .grow => ((s.1.grow maxSize).1, s.2)
  | .flush => (s.1.pollFlush.1, s.2)
  | .shutdown => (s.1.pollShutdown.1, s.2)
  | .dropWriter => (s.1.dropWriter.1, s.2)
  | .close => (s.1.markVsockClosed.1, s.2)
  | .takeWriterWaker => (s.1.takeWriterWaker.1, s.2)
  | .registerDispatcher => (s.1.registerDispatcher, s.2)

def Inv (bound : Nat) (s : TxRing × Hist) : Prop :=
  s.1.ring = s.2.written.drop s.2.removed ∧ s.1.ring.length ≤ s.1.cap ∧ s.1.cap ≤ bound ∧
  s.2.removed ≤ s.2.written.length

def accepted : WriteRes → Nat
  | .ready n => n
  | _ => 0

/-- **`poll_write` accepts exactly the prefix that fits**: it appends the accepted prefix of `buf` (nothing unless the
result is `Ready`) and never changes the capacity; when it accepts, it accepts `min(|buf|, cap − |ring|) > 0` bytes and
wakes the connection task if that had registered. -/
theorem pollWrite_spec (t : TxRing) (buf : List Nat) {t' : TxRing} {r : WriteRes} {ws : List Wake}
    (h : t.pollWrite buf = (t', r, ws)) :
    t'.ring = t.ring ++ buf.take (accepted r) ∧ t'.cap = t.cap ∧
    ∀ n, r = .ready n → n = min buf.length (t.cap - t.ring.length) ∧ 0 < n ∧
      (t.dispatcherWaker = true → ws = [.dispatcher] ∧ t'.dispatcherWaker = false) := by
  have nil : t.ring = t.ring ++ buf.take 0 := (List.append_nil _).symm
  unfold pollWrite at h
  iterate 4   -- the four refusals (yield limit, closed, shut down, writer dropped): nothing appended
    obtain ⟨-, h⟩ | ⟨-, h⟩ := of_ite_eq h
    · cases h; exact ⟨nil, rfl, nofun⟩
  obtain ⟨hz, h⟩ | ⟨hz, h⟩ := of_ite_eq h
  · cases h; exact ⟨by rw [hz]; rfl, rfl, nofun⟩
  obtain ⟨hw, h⟩ | ⟨hw, h⟩ := of_ite_eq h <;> cases h <;> refine ⟨rfl, rfl, fun n hn => ?_⟩ <;> cases hn
  · exact ⟨rfl, by omega, fun _ => ⟨rfl, rfl⟩⟩
  · exact ⟨rfl, by omega, fun h => absurd h hw⟩

/-- **Back-pressure**: a live, not-yield-limited write that finds no room (or is empty) returns
Pending *and has registered the writer's waker*; it buffers nothing. -/
theorem write_full_waits (t : TxRing) (buf : List Nat)
    (hy : ¬ t.writtenWithoutYield > UtpVerif.Gen.YIELD_EVERY) (hc : t.vsockClosed = false)
    (hs : t.writerShutdown = false) (hd : t.writerDropped = false)
    (hfull : min buf.length (t.cap - t.ring.length) = 0) :
    ∃ t', t.pollWrite buf = (t', .pending, []) ∧ t'.writerWaker = true ∧ t'.ring = t.ring := by
  unfold pollWrite
  simp [hy, hc, hs, hd, hfull]

/-- An accepting write wakes the connection task if it had registered for it (it registers
exactly when it found the ring empty). -/
theorem write_wakes_dispatcher (t : TxRing) (buf : List Nat) (t' : TxRing) (n : Nat) (ws : List Wake)
    (h : t.pollWrite buf = (t', .ready n, ws)) (hreg : t.dispatcherWaker = true) :
    ws = [.dispatcher] ∧ t'.dispatcherWaker = false :=
  ((pollWrite_spec t buf h).2.2 n rfl).2.2 hreg

/-- A shutdown request on a drained live ring wakes the connection task too (the FIN has to go out). -/
theorem shutdown_wakes_dispatcher (t : TxRing) (he : t.ring = []) (hc : t.vsockClosed = false)
    (hreg : t.dispatcherWaker = true) :
    ∃ t', t.pollShutdown = (t', .pending, [.dispatcher]) ∧ t'.writerShutdown = true ∧ t'.writerWaker = true := by
  unfold pollShutdown
  simp [he, hc, hreg]

/-- Dropping the writer wakes the connection task. -/
theorem drop_wakes_dispatcher (t : TxRing) (hd : t.writerDropped = false) (hreg : t.dispatcherWaker = true) :
    t.dropWriter.2 = [.dispatcher] ∧ t.dropWriter.1.writerDropped = true := by
  unfold dropWriter; simp [hd, hreg]

/-- **Growth never loses, duplicates or reorders**: content identical; capacity doubles up to the
maximum, and only if below it. -/
theorem grow_content (t : TxRing) (maxSize : Nat) (hl : t.ring.length ≤ t.cap) :
    (t.grow maxSize).1.ring = t.ring := by
  unfold grow
  by_cases h : t.cap ≥ maxSize
  · simp only [h, if_true]
  · simp only [h, if_false]
    exact List.take_of_length_le (by omega)

theorem grow_cap (t : TxRing) (maxSize : Nat) :
    (t.grow maxSize).1.cap = if t.cap ≥ maxSize then t.cap else min (t.cap * 2) maxSize := by
  unfold grow; split <;> rfl

theorem grow_at_max (t : TxRing) (maxSize : Nat) (h : t.cap ≥ maxSize) :
    (t.grow maxSize).1.cap = t.cap ∧ (t.grow maxSize).2 = none := by
  unfold grow; rw [if_pos h]; exact ⟨rfl, rfl⟩

theorem grow_below_max (t : TxRing) (maxSize : Nat) (h : t.cap < maxSize) (hp : 0 < t.cap) :
    (t.grow maxSize).1.cap = min (t.cap * 2) maxSize ∧ (t.grow maxSize).2 = some (min (t.cap * 2) maxSize) ∧
    t.cap < (t.grow maxSize).1.cap := by
  unfold grow; rw [if_neg (Nat.not_le.mpr h)]
  exact ⟨rfl, rfl, Nat.lt_min.mpr ⟨by omega, h⟩⟩

/-- **Acknowledged bytes leave from the front**: exactly the first `n`, or the internal error when
more is asked than is held. -/
theorem truncate_spec (t : TxRing) (n : Nat) :
    (n ≤ t.ring.length → (t.truncateFront n).1.ring = t.ring.drop n ∧ (t.truncateFront n).2 = true) ∧
    (t.ring.length < n → (t.truncateFront n).2 = false) := by
  unfold truncateFront
  constructor
  · intro h; simp [Nat.min_eq_left h]
  · intro h; simp only [decide_eq_false_iff_not]; omega

/-- After acknowledgements free space the dispatcher takes the writer's waker: a blocked writer is woken. -/
theorem blocked_writer_woken (t : TxRing) (h : t.writerWaker = true) :
    t.takeWriterWaker.2 = [.writer] := by
  unfold takeWriterWaker; simp [h]

theorem step_inv (bound maxSize : Nat) (hm : maxSize ≤ bound) (s : TxRing × Hist) (op : Op) (h : Inv bound s) :
    Inv bound (step maxSize s op) := by
  obtain ⟨t, hist⟩ := s
  obtain ⟨hr, hl, hc, hrm⟩ := h
  simp only at hr hl hc hrm
  cases op with
  | write buf =>
    obtain ⟨t', r, ws, hw⟩ : ∃ t' r ws, t.pollWrite buf = (t', r, ws) := ⟨_, _, _, rfl⟩
    obtain ⟨hring, hcap, hn⟩ := pollWrite_spec t buf hw
    have hstep : step maxSize (t, hist) (.write buf) =
        (t', { hist with written := hist.written ++ buf.take (accepted r) }) := by
      simp only [step, hw]; cases r <;> simp [accepted]
    have hacc : accepted r ≤ t.cap - t.ring.length := by
      cases r <;> simp only [accepted, Nat.zero_le]
      exact (hn _ rfl).1 ▸ Nat.min_le_right ..
    rw [hstep]
    refine ⟨?_, ?_, hcap ▸ hc, by simp only [List.length_append]; omega⟩
    · simp only [hring, hr]; rw [List.drop_append_of_le_length hrm]
    · simp only [hring, hcap, List.length_append, List.length_take]; omega
  | trunc n =>
    simp only [step]
    split
    · rename_i hn
      have hd := ((truncate_spec t n).1 hn).1
      refine ⟨?_, ?_, hc, ?_⟩
      · rw [hd, hr, List.drop_drop]
      · rw [hd, List.length_drop]; exact Nat.le_trans (Nat.sub_le ..) hl
      · rw [hr, List.length_drop] at hn; show hist.removed + n ≤ hist.written.length; omega
    · exact ⟨hr, hl, hc, hrm⟩
  | grow =>
    have hg := grow_content t maxSize hl
    have hcap : t.cap ≤ (t.grow maxSize).1.cap ∧ (t.grow maxSize).1.cap ≤ max t.cap maxSize := by
      rw [grow_cap]; split <;> omega
    exact ⟨hg.trans hr, hg ▸ Nat.le_trans hl hcap.1, Nat.le_trans hcap.2 (Nat.max_le.2 ⟨hc, hm⟩), hrm⟩
  | _ => -- the other operations only write flags
    simp only [step, pollFlush, pollShutdown, dropWriter, markVsockClosed, takeWriterWaker, registerDispatcher]
    repeat' split
    all_goals exact ⟨hr, hl, hc, hrm⟩

theorem inv_reachable (initial maxSize : Nat) (ops : List Op) :
    Inv (max initial maxSize) (ops.foldl (step maxSize) (TxRing.new initial, {})) :=
  List.foldlRecOn ops _ (by unfold Inv TxRing.new; simp; omega) fun s h op _ =>
    step_inv _ maxSize (Nat.le_max_right ..) s op h

/-- **Bounded buffering for every history**: for all write sizes and timings, all acknowledgement
schedules (including a peer that never acknowledges), all initial/maximum sizes — the bytes accepted
but not yet acknowledged are exactly the ring content, in order, and never exceed
`max(initial, maximum)`. -/
theorem accepted_minus_acked_bounded (initial maxSize : Nat) (ops : List Op) :
    let s := ops.foldl (step maxSize) (TxRing.new initial, {})
    s.1.ring = s.2.written.drop s.2.removed ∧
    s.2.written.length - s.2.removed = s.1.ring.length ∧
    s.1.ring.length ≤ max initial maxSize := by
  obtain ⟨h1, h2, h3, h4⟩ := inv_reachable initial maxSize ops
  refine ⟨h1, ?_, by omega⟩
  rw [h1, List.length_drop]

/-- **What goes on the wire is the ring content at the requested offset**, whatever the internal
wrap position `k` of the ring buffer, and never one of the internal `Bug*` errors, as long as the
range lies inside the ring. -/
theorem prepare2_correct (ring : List Nat) (k off len : Nat) (h : off + len ≤ ring.length) :
    prepare2 (ring.take k) (ring.drop k) off len = .ok ((ring.drop off).take len) := by
  have hl : (ring.take k).length + (ring.drop k).length = ring.length := by simp; omega
  rw [prepare2_eq, hl, if_neg (by omega), if_neg (by omega), List.take_append_drop]

-- Non-vacuity: a concrete run that fills, back-pressures, acks, grows.
example :
    let s := [Op.write [1, 2, 3], .write [4, 5], .trunc 2, .grow, .write [6, 7, 8]].foldl (step 8) (TxRing.new 4, {})
    s.1.ring = [3, 4, 6, 7, 8] ∧ s.1.cap = 8 ∧ s.2.written = [1, 2, 3, 4, 6, 7, 8] ∧ s.2.removed = 2 := by decide

end UtpVerif.Props.C19
