import UtpVerif.Model.VSock
import UtpVerif.Lemmas.Segments
import UtpVerif.Props.C10Inv
import UtpVerif.Lemmas.VSock
/-!
# C17 — handshake and teardown follow the uTP state machine on the wire
-/
namespace UtpVerif.Props.C17
open UtpVerif.Model UtpVerif.Model.VSock UtpVerif.Gen UtpVerif.Lemmas.Segments UtpVerif.Model.Segments UtpVerif.Lemmas.VSock

theorem constants_pinned : SYNACK_RESEND_INTERNAL = 200 * 1000000 ∧ TYPE_ST_FIN = 1 ∧ TYPE_ST_STATE = 2 ∧
    TYPE_ST_RESET = 3 ∧ TYPE_ST_SYN = 4 ∧ TYPE_ST_DATA = 0 := by decide

/-- **Closing on its own initiative**: the FIN takes the sequence number following the last queued data segment
(`snd_una + len`; `poll` calls this only when every queued segment has been transmitted and nothing is
unsegmented), and the counter moves past it. Not `seq_nr` (D26): while segments are being re-sent after an RTO that
is not the number after the last segment. -/
theorem transition_assigns_next_seq (v : VSock) (h : v.state = .established ∨ v.state = .synReceived ∨ ∃ n, v.state = .synAckSent n) :
    v.transitionToFinWait1.state = .finWait1 (wadd v.segs.sndUna (v.segs.segs.length % 65536)) ∧
    v.transitionToFinWait1.seqNr = wadd (wadd v.segs.sndUna (v.segs.segs.length % 65536)) 1 ∧
    v.transitionToFinWait1.segs = v.segs := by
  rw [transitionToFinWait1_eq, if_neg (by rcases h with h | h | ⟨n, h⟩ <;> rw [h] <;> exact Bool.false_ne_true)]
  exact ⟨rfl, rfl, rfl⟩

/-- In every other state the transition does nothing (no second FIN number is ever assigned). -/
theorem transition_idempotent (v : VSock) (h : v.state.isLocalFinOrLater = true) : v.transitionToFinWait1 = v := by
  rw [transitionToFinWait1_eq, if_pos h]

/-- **The FIN is emitted only when every earlier sequence number has been transmitted**
(`fin − last_sent_seq_nr = 1`), it is an ST_FIN carrying exactly the FIN's number, and on success the
retransmission timer is armed and `last_sent_seq_nr` becomes the FIN's number. -/
theorem maybeSendFin_spec (v : VSock) (c : Ctx) (v' : VSock) (c' : Ctx)
    (h : v.maybeSendFin c = .ok (v', c', true)) :
    ∃ fin, v.state.ourFinIfUnacked = some fin ∧ seqSub fin v.lastSentSeqNr = 1 ∧ v'.lastSentSeqNr = fin ∧
      v'.timers.retransmit.isSome ∧
      ∃ bytes, c'.out = c.out ++ [bytes] ∧
        ({ v.outgoingHeader with htype := TYPE_ST_FIN, seqNr := fin } : Header).serialize (v.ss.maxSs + UTP_HEADER) = some bytes := by
  obtain ⟨_, fin, d, hfin, hgap, hser, rfl, rfl⟩ | ⟨hb, _⟩ := maybeSendFin_ok h
  · exact ⟨fin, hfin, hgap, rfl, arm_isSome .., d, rfl, hser⟩
  · cases hb

/-- **A RESET aborts at once, with an error, and without a reply** — unless the close handshake was
already answered (`LastAck` and the RESET acknowledges our FIN), in which case the connection simply
ends. Either way the state is `Closed` and no datagram is emitted while processing it. -/
theorem reset_aborts (v : VSock) (c : Ctx) (msg : Msg) (hty : msg.h.htype = TYPE_ST_RESET) :
    (∃ f, v.processIncomingMessage c msg = .error f ∧ f.e = .stResetReceived ∧ f.v.state = .closed ∧ f.c = c) ∨
    (∃ v', v.processIncomingMessage c msg = .ok (v', c, {}) ∧ v'.state = .closed ∧
       ∃ ourFin rf, v.state = .lastAck ourFin rf ∧ msg.h.ackNr = ourFin) := by
  unfold processIncomingMessage stateGate
  cases hs : v.state with
  | lastAck ourFin rf =>
    by_cases ha : msg.h.ackNr = ourFin
    · right; simp only [hty, if_true, ha, pure, Except.pure]
      exact ⟨_, rfl, rfl, ourFin, rf, rfl, rfl⟩
    · left; simp only [hty, if_true, ha, if_false, throw, throwThe, MonadExceptOf.throw]
      exact ⟨_, rfl, rfl, rfl, rfl⟩
  | _ =>
    left; simp only [hty, if_true, throw, throwThe, MonadExceptOf.throw]
    exact ⟨_, rfl, rfl, rfl, rfl⟩

/-- A SYN on an existing connection is ignored (no state change, no output). -/
theorem syn_ignored (v : VSock) (c : Ctx) (msg : Msg) (hty : msg.h.htype = TYPE_ST_SYN) :
    v.processIncomingMessage c msg = .ok (v, c, {}) := by
  have hne : ¬ (TYPE_ST_SYN = TYPE_ST_RESET) := by decide
  unfold processIncomingMessage stateGate
  cases hs : v.state <;> simp [hty, hne, pure, Except.pure]

/-- **A peer's FIN is honoured only in sequence**: in `Established`, `FinWait1`, `FinWait2` a FIN whose
sequence number is not `last consumed + 1` is dropped without any state change. -/
theorem out_of_sequence_fin_dropped (v : VSock) (hdr : Header) (hty : hdr.htype = TYPE_ST_FIN)
    (hst : v.state = .established ∨ (∃ f, v.state = .finWait1 f) ∨ v.state = .finWait2)
    (hseq : hdr.seqNr ≠ wadd v.lastConsumedRemoteSeqNr 1) :
    ∃ v', v.stateGate hdr = .dropPacket v' ∧ v' = v := by
  have h1 : ¬ (TYPE_ST_FIN = TYPE_ST_RESET) := by decide
  have h2 : ¬ (TYPE_ST_FIN = TYPE_ST_SYN) := by decide
  unfold stateGate
  rcases hst with h | ⟨f, h⟩ | h <;> simp [h, hty, h1, h2, hseq]

/-- **In-sequence FIN in `Established`**: the endpoint moves to `LastAck`, scheduling its own FIN with the number
that follows the last segment that stays queued (`snd_una + len` after the never-sent tail was discarded). -/
theorem in_sequence_fin_answered (v : VSock) (hdr : Header) (hty : hdr.htype = TYPE_ST_FIN)
    (hst : v.state = .established) (hseq : hdr.seqNr = wadd v.lastConsumedRemoteSeqNr 1) :
    ∃ v' fin, v.stateGate hdr = .proceed v' ∧ v'.state = .lastAck fin hdr.seqNr ∧ v'.seqNr = wadd fin 1 ∧
      v'.segs = v.segs.discardUnsent ∧ fin = wadd v'.segs.sndUna (v'.segs.segs.length % 65536) := by
  have h1 : ¬ (TYPE_ST_FIN = TYPE_ST_RESET) := by decide
  have h2 : ¬ (TYPE_ST_FIN = TYPE_ST_SYN) := by decide
  unfold stateGate
  simp [hst, hty, h1, h2, hseq]

/-- **The answering FIN can always be sent (D24).** Its number is exactly one past the last queued segment, so as
soon as `last_sent_seq_nr` stands on that segment (`snd_una + len - 1`: everything queued is on the wire, or the
queue is empty) `maybe_send_fin`'s guard `fin - last_sent_seq_nr = 1` holds. Before the D24 repair the FIN was
numbered from `seq_nr`, which a popped MTU probe leaves one further ahead: the guard was then never true. -/
theorem answering_fin_is_sendable (una len ls : Nat) (hu : una < 65536) (hlen : len ≤ 16384)
    (hls : ls < 65536) (hat : seqSub ls una = (len : Int) - 1) :
    seqSub (wadd una (len % 65536)) ls = 1 := by
  have e := C10Inv.eq_off_of_seqSub ls una hls hu
  rw [hat] at e
  rw [C10Inv.wadd_mod_off, e, C10Inv.seqSub_off_off una len _ (by omega)]
  omega

/-- **Leaving `SynAckSent`**: only a DATA/STATE acknowledging `seq_nr − 1` establishes the connection;
any other acknowledgement number is ignored; a FIN closes. -/
theorem synack_sent_exits (v : VSock) (hdr : Header) (n : Nat) (hst : v.state = .synAckSent n)
    (hty : hdr.htype = TYPE_ST_DATA ∨ hdr.htype = TYPE_ST_STATE) :
    (hdr.ackNr = wsub v.seqNr 1 → ∃ v', v.stateGate hdr = .proceed v' ∧ v'.state = .established) ∧
    (hdr.ackNr ≠ wsub v.seqNr 1 → v.stateGate hdr = .dropPacket v) := by
  have h1 : hdr.htype ≠ TYPE_ST_RESET := by rcases hty with h | h <;> rw [h] <;> decide
  have h2 : hdr.htype ≠ TYPE_ST_SYN := by rcases hty with h | h <;> rw [h] <;> decide
  unfold stateGate
  rw [hst]
  dsimp only
  rw [if_neg h1, if_neg h2, if_pos hty]
  exact ⟨fun ha => ⟨_, if_neg (not_not_intro ha), rfl⟩, fun ha => if_pos ha⟩

/-- **SYN-ACK**: the first poll of an accepted connection answers the SYN with a state packet whose
`ack_nr` is the SYN's sequence number (`last_consumed` was initialised to it), at most
`max_retransmissions` are ever sent, each resend waits for the 200 ms timer, then the connection
fails with `MaxSynAckRetransmissionsReached`. -/
theorem synack_cap (v : VSock) (c : Ctx) (count : Nat) (hs : v.state = .synAckSent count)
    (hexp : Timer.expired v.timers.synAckResend v.pollNow = true) (hmax : count = v.opts.maxRetx) :
    ∃ f, v.maybeSendSynAck c = .error f ∧ f.e = .maxSynAckRetransmissionsReached := by
  unfold maybeSendSynAck
  simp only [hs, hexp, if_true, hmax, throw, throwThe, MonadExceptOf.throw]
  exact ⟨_, rfl, rfl⟩

theorem synack_waits_for_timer (v : VSock) (c : Ctx) (count : Nat) (hs : v.state = .synAckSent count)
    (hexp : Timer.expired v.timers.synAckResend v.pollNow = false) : v.maybeSendSynAck c = .ok (v, c) := by
  unfold maybeSendSynAck
  simp [hs, hexp, pure, Except.pure]

theorem synack_first (v : VSock) (c : Ctx) (hs : v.state = .synReceived) (hm : 0 < v.opts.maxRetx)
    (v' : VSock) (c' : Ctx) (bytes : List Nat)
    (hsa : v.sendAck c = .ok (v', c', true)) :
    ∃ v'', v.maybeSendSynAck c = .ok (v'', c') ∧ v''.state = .synAckSent 1 ∧
      v''.timers.synAckResend = some (v'.pollNow + 200000000) := by
  unfold maybeSendSynAck
  have hne : ¬ (0 = v.opts.maxRetx) := by omega
  simp only [hs, hne, if_false, hsa, if_true, pure, Except.pure]
  exact ⟨_, rfl, rfl, arm_restart ..⟩

/-- **The FIN is never withheld once everything before it is acknowledged.** If the peer has acknowledged
every sequence number before our FIN (`snd_una = fin`) and the FIN has not been sent (`last_sent` is behind
it, within the comparison tolerance), the clamp leaves `fin − last_sent_seq_nr = 1` — exactly the condition
under which `maybe_send_fin` emits the FIN (`maybeSendFin_spec`) — wherever `last_sent_seq_nr` had been
rewound to by an RTO. -/
theorem fin_not_withheld_after_full_ack (lastSent fin : Nat) (hl : lastSent < 65536) (hf : fin < 65536)
    (hbehind : 1 ≤ seqSub fin lastSent) (htol : seqSub fin lastSent ≤ Gen.WRAP_TOLERANCE) :
    seqSub fin (VSock.clampLastSent lastSent fin) = 1 := by
  have ht := C09.wrap_tolerance_value
  have hfin := C10Inv.eq_off_of_seqSub fin lastSent hf hl
  generalize seqSub fin lastSent = d at *
  -- in steps from `last_sent`: the clamp takes it from `0` to `d - 1 ≥ 0`, one before the FIN
  have hc := C10Inv.clamp_off lastSent 0 d (by omega)
  rw [C10Inv.off_zero _ hl, ← hfin] at hc
  rw [hc, hfin, C10Inv.seqSub_off_off _ _ _ (by omega)]
  omega

/-- **The FIN that answers a remote FIN never shares its number with a queued segment's bytes (D22).** When the
remote's in-sequence FIN is accepted in Established, the segment queue afterwards contains no never-transmitted
segment: what was queued but never sent has gone back to the unsegmented part of the stream (the byte accounting
invariant is kept, `snd_una` is unchanged), so an acknowledgement of our FIN can only remove segments that were
really transmitted. -/
theorem remote_fin_leaves_no_unsent_segment (v : VSock) (hdr : Header) (hst : v.state = .established)
    (hfin : hdr.htype = Gen.TYPE_ST_FIN) (hseq : hdr.seqNr = wadd v.lastConsumedRemoteSeqNr 1) (hS : SInv v.segs) :
    let v' := (v.stateGate hdr).vsock
    trailingUnsent v'.segs.segs = 0 ∧ SInv v'.segs ∧ v'.segs.sndUna = v.segs.sndUna ∧
      v'.state = .lastAck (wadd v'.segs.sndUna (v'.segs.segs.length % 65536)) hdr.seqNr := by
  obtain ⟨w, _, hg, hs, _, hw, rfl⟩ := in_sequence_fin_answered v hdr hfin hst hseq
  obtain ⟨h1, h2, _, _, _, h6⟩ := discardUnsent_ok v.segs hS
  rw [hg]
  dsimp only [Gate.vsock]
  rw [hs, hw]
  exact ⟨h6, h1, h2, rfl⟩

/-- **No FIN behind an outstanding MTU probe (D27).** While the newest queued segment is a probe the peer has not
acknowledged, `unsent_data_exists()` answers true - and `poll` schedules the endpoint's own FIN only when it answers
false. A lost probe is popped and its bytes are segmented again under its own and the FOLLOWING numbers, so a FIN
numbered right behind it would collide with the second piece (before the repair the FIN was then re-sent in that
piece's place and the piece was never transmitted). -/
theorem no_fin_behind_outstanding_probe (v : VSock) (c : Ctx) (h : v.probeOutstanding = true) :
    v.unsentDataExists c = .ok true := by
  unfold unsentDataExists
  rw [if_pos h]
  split <;> rfl

/-- Non-vacuity: a queue whose newest segment is an unacknowledged probe. -/
def probeSock : VSock :=
  { state := .established, opts := { nagle := true }, socketCreated := 0, connIdSend := 1,
    lastRemoteTimestamp := 0, lastRemoteWindow := 100000, seqNr := 6, lastSentSeqNr := 5,
    lastConsumedRemoteSeqNr := 0, lastSentAckNr := 0, lastSentWindow := 0,
    rx := Rx.build 1000 528, tx := TxRing.new 1000,
    segs := { (Segments.new 5) with segs := [{ payloadSize := 741, offsetAbs := 0, isMtuProbe := true }] },
    ss := { minSs := 528, maxSs := 952, cooldownRemaining := 1, cooldownMax := 3 } }
example : probeSock.probeOutstanding = true := by decide

/-- **Without an outstanding probe nothing is popped**: `pop_expired_mtu_probe` leaves the queue alone unless the
newest segment is an unacknowledged MTU probe. Together with `no_fin_behind_outstanding_probe` (the FIN is scheduled
only when there is none) and the fact that nothing is segmented after the FIN, this is why the queue can no longer
be re-split underneath a scheduled FIN (D27). -/
theorem no_pop_without_outstanding_probe (s : Segments) (timedOut : Bool) (maxRetx : Nat)
    (h : ∀ g, s.segs.getLast? = some g → (g.isMtuProbe && !g.isDelivered) = false) :
    ∃ r, s.popExpiredMtuProbe timedOut maxRetx = some (s, r) ∧ ∀ a b, r ≠ .expired a b := by
  unfold Segments.popExpiredMtuProbe
  cases hl : s.segs.getLast? with
  | none => exact ⟨_, rfl, nofun⟩
  | some last =>
    have hp := h last hl
    by_cases hd : last.isDelivered = true
    · simp only [hd, if_true]; exact ⟨_, rfl, nofun⟩
    · have hnp : last.isMtuProbe = false := by
        cases hm : last.isMtuProbe
        · rfl
        · simp [hm, hd] at hp
      simp [hd, hnp]

end UtpVerif.Props.C17
