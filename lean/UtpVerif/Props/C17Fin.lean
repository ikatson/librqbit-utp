import UtpVerif.Props.C10Inv

/-!
# C17 / C10 — the FIN's number and the segment queue (`FInv`)

`maybe_send_fin` sends the FIN only when `fin - last_sent_seq_nr = 1`, and processes the FIN's number like any
other in `last_sent_seq_nr`. Both are sound only if the FIN's number is the one that follows the last queued
segment. Three defects were ways in which the code did not establish that: D22 (the FIN shared its number with a
never-sent segment), D24 (the FIN was numbered past a number that a popped probe had given back) and D26 (the FIN took
`seq_nr`, which every re-send after an RTO sets back). This file states the relation as an invariant, `FInv`, next to
`LInv` of `Props/C10Inv`; the FIN is numbered from the queue wherever it is scheduled, so `FInv` carries no hypothesis
about `seq_nr`:

* it is established where a FIN is scheduled: the answer to the remote's in-sequence FIN in Established (`stateGate`)
  and closing on the endpoint's own initiative (`transition_to_fin_wait_1`, called when nothing queued is unsent),
* it is kept by the whole per-(state, packet) table, by acknowledgement processing for ANY header and by the
  payload half - hence by `process_incoming_message` and the receive loop - and by `send_data!`, hence by the two
  loops of `send_tx_queue`,
* under it `maybe_send_fin` keeps `LInv` (the FIN's number in `last_sent_seq_nr` is `snd_una + len`, the top of
  the allowed range), and so do stepping `last_sent_seq_nr` back to have the FIN sent again and the whole RTO path.
-/

namespace UtpVerif.Props.C17Fin
open UtpVerif.Model UtpVerif.Lemmas.Segments UtpVerif.Lemmas.VSock UtpVerif.Model.VSock UtpVerif.Model.Segments UtpVerif.Props.C10Inv

/-- While our FIN is unacknowledged its number is the one following the last queued segment, and nothing queued
is still unsent. -/
def FInv (v : VSock) : Prop :=
  ∀ fin, v.state.ourFinIfUnacked = some fin →
    fin = off v.segs.sndUna v.segs.segs.length ∧ trailingUnsent v.segs.segs = 0

theorem finv_of_none (v : VSock) (h : v.state.ourFinIfUnacked = none) : FInv v := by
  intro fin hf; rw [h] at hf; cases hf

/-- (`FInv` reads the pending FIN off the state, `snd_una + len` and the never-sent tail off the queue) -/
theorem FInv.of_queue {v w : VSock} (h : FInv v)
    (hs : w.state.ourFinIfUnacked = none ∨ w.state.ourFinIfUnacked = v.state.ourFinIfUnacked)
    (hq : off w.segs.sndUna w.segs.segs.length = off v.segs.sndUna v.segs.segs.length)
    (ht : trailingUnsent v.segs.segs = 0 → trailingUnsent w.segs.segs = 0) : FInv w := by
  intro fin hf
  obtain hs | hs := hs <;> rw [hs] at hf
  · cases hf
  · exact ⟨hq ▸ (h fin hf).1, ht (h fin hf).2⟩

theorem FInv.congr {v v' : VSock} (h : FInv v) (e1 : v'.segs = v.segs) (e2 : v'.state = v.state) : FInv v' :=
  h.of_queue (.inr (e2 ▸ rfl)) (e1 ▸ rfl) (e1 ▸ id)

/-- **`maybe_send_fin` keeps both invariants**, and when it reports the FIN as sent `last_sent_seq_nr` is the
FIN's number. -/
theorem maybeSendFin_inv (v : VSock) (c : Ctx) (v' : VSock) (c' : Ctx) (b : Bool) (h : LInv v) (hf : FInv v)
    (he : v.maybeSendFin c = .ok (v', c', b)) :
    LInv v' ∧ FInv v' ∧ (b = true → v.state.ourFinIfUnacked = some v'.lastSentSeqNr) := by
  obtain ⟨rfl, fin, _, hfin, _, _, rfl, _⟩ | ⟨rfl, ⟨rfl, _⟩ | ⟨rfl, _⟩⟩ := maybeSendFin_ok he
  · -- the FIN's number, `snd_una + len`, is the top of the range; nothing queued is unsent
    obtain ⟨rfl, htu⟩ := hf fin hfin
    exact ⟨h.at_off (d := v.segs.segs.length) (by omega) (by omega) rfl rfl, hf.congr rfl rfl, fun _ => hfin⟩
  · exact ⟨h, hf, nofun⟩
  · exact ⟨h.congr rfl rfl, hf.congr rfl rfl, nofun⟩

/-- **The whole per-(state, packet type) table keeps `FInv`**: the FIN's number is fixed where it is scheduled and
only carried along afterwards (FinWait1 → LastAck keeps it; every other transition leaves no unacknowledged FIN). -/
theorem stateGate_finv (v : VSock) (hdr : Header) (h : LInv v) (hf : FInv v) : FInv (v.stateGate hdr).vsock := by
  obtain ⟨_, _, _, hg⟩ | ⟨_, _, hedge, hg, _⟩ := stateGate_ok v hdr <;> rw [hg]
  · rintro fin ⟨⟩
    exact ⟨wadd_mod_off _ _, (discardUnsent_ok v.segs h.sinv).2.2.2.2.2⟩
  · exact hf.of_queue hedge.ourFin rfl id

/-- **The answering FIN is scheduled with `FInv`** (D22 + D24): when the remote's in-sequence FIN is accepted in
Established the endpoint's FIN gets the number after the last segment that stays queued, and nothing queued is
unsent. -/
theorem stateGate_established_fin_finv (v : VSock) (hdr : Header) (h : LInv v) (hst : v.state = .established) :
    FInv (v.stateGate hdr).vsock :=
  stateGate_finv v hdr h (finv_of_none v (by rw [hst]; rfl))

/-- **Acknowledgement processing keeps `FInv`**, for any header: it removes a prefix of the queue and advances
`snd_una` by as much (`snd_una + len` is unchanged), never touches the state, and leaves no unsent segment behind
where there was none. -/
theorem ackPart_finv (v : VSock) (c : Ctx) (msg : Msg) (h : LInv v) (hf : FInv v) (v1 : VSock) (c1 : Ctx)
    (res : OnAckResult) (he : v.ackPart c msg = .ok (v1, c1, res)) : FInv v1 ∧ v1.state = v.state := by
  obtain ⟨_, _, _, k, he', _, hst, hk, hu, hn, ht⟩ := ackPart_queue v c msg h
  cases he.symm.trans he'
  exact ⟨hf.of_queue (.inr (by rw [hst])) (by rw [hu, hn]; exact off_advance _ _ _ hk) (fun h0 => by rw [ht, h0, Nat.zero_min]), hst⟩

/-- **`process_incoming_message` keeps both invariants**, whatever the packet. -/
theorem processIncomingMessage_inv {v : VSock} {c : Ctx} {msg : Msg} {v' : VSock} {c' : Ctx} {r : OnAckResult}
    (h : LInv v ∧ FInv v) (hp : v.processIncomingMessage c msg = .ok (v', c', r)) : LInv v' ∧ FInv v' := by
  refine ⟨processIncomingMessage_linv _ _ _ _ _ _ h.1 hp, ?_⟩
  have hg := stateGate_finv v msg.h h.1 h.2
  obtain rfl | ⟨_, _, _, ha, hp⟩ := processIncomingMessage_ok hp
  · exact hg
  · have hu := (payloadPart_ok hp).1
    exact (ackPart_finv _ c msg (stateGate_linv v msg.h h.1) hg _ _ _ ha).1.congr (congrArg VSock.segs hu :)
      (congrArg VSock.state hu :)

/-- **Every queue of incoming packets keeps `FInv`** (and `LInv` along with it: `C10Inv.recvLoop_linv`). -/
theorem recvLoop_finv (fuel : Nat) (v : VSock) (c : Ctx) (acc : OnAckResult) (v' : VSock) (c' : Ctx) (acc' : OnAckResult)
    (how : RecvLoop) (h : LInv v) (hf : FInv v) (hp : recvLoop fuel v c acc = .ok (v', c', acc', how)) : FInv v' :=
  (recvLoop_preserves (P := fun v => LInv v ∧ FInv v) processIncomingMessage_inv
    (fun h => ⟨h.1.congr rfl rfl, h.2.congr rfl rfl⟩) (fun h => ⟨h.1.congr rfl rfl, h.2.congr rfl rfl⟩) ⟨h, hf⟩ hp).2

/-- **Closing on the endpoint's own initiative establishes `FInv`** whenever nothing queued is unsent - which is
what `poll` checks (`!unsent`) before it calls `transition_to_fin_wait_1`. The FIN is numbered from the queue (D26),
so there is no hypothesis about `seq_nr`. -/
theorem transitionToFinWait1_finv (v : VSock) (h : LInv v) (hf : FInv v) (htu : trailingUnsent v.segs.segs = 0) :
    FInv v.transitionToFinWait1 := by
  rw [transitionToFinWait1_eq]
  split
  · exact hf
  · rintro fin ⟨⟩; exact ⟨wadd_mod_off _ _, htu⟩

theorem transitionToFinWait1_linv (v : VSock) (h : LInv v) : LInv v.transitionToFinWait1 := by
  rw [transitionToFinWait1_eq]
  split
  · exact h
  · exact h.congr rfl rfl

/-- Non-vacuity: a connection without a scheduled FIN satisfies `FInv` (every connection starts like this). -/
example (v : VSock) (h : v.state = .established) : FInv v := finv_of_none v (by rw [h]; rfl)

/-- **`send_data!` keeps `FInv`** and never touches the connection state: a (re)transmission marks a queued segment,
it neither moves `snd_una` nor changes the number of queued segments nor leaves an unsent segment where there was
none. -/
theorem sendData_finv (v : VSock) (c : Ctx) (hd : Header) (view : SegView) (v' : VSock) (c' : Ctx) (r : DataSend)
    (h : LInv v) (hf : FInv v) (hview : ValidView v.segs view) (hs : v.sendData c hd view = .ok (v', c', r)) :
    FInv v' ∧ v'.state = v.state := by
  obtain ⟨_, _, _, _, _, rfl, _⟩ := sendData_ok hs
  cases r
  · obtain ⟨_, hu, hn, ht, _⟩ := onSent_queue v.segs view.idx c.now h.sinv hview.1
    exact ⟨hf.of_queue (.inr rfl) (by rw [← hu, ← hn]; rfl) (fun h0 => Nat.le_zero.mp (h0 ▸ ht)), rfl⟩
  · exact ⟨hf.congr rfl rfl, rfl⟩
  · exact ⟨hf, rfl⟩

/-- Stepping `last_sent_seq_nr` back to just before the FIN (what the recovery branch of `send_tx_queue` and the RTO
path do to have the FIN sent again) keeps `LInv`: under `FInv` that number is the last queued segment's (or
`snd_una - 1` with an empty queue). -/
theorem fin_stepback_linv (v : VSock) (fin : Nat) (h : LInv v) (hf : FInv v) (hfin : v.state.ourFinIfUnacked = some fin)
    (w : VSock) (e1 : w.segs = v.segs) (e2 : w.lastSentSeqNr = wsub fin 1) : LInv w := by
  obtain ⟨rfl, htu⟩ := hf fin hfin
  refine h.at_off (d := v.segs.segs.length + -1) (by omega) (by omega) e1 ?_
  rw [e2, wsub_one_off _ (off_lt _ _), off_off]

/-- **The RTO path keeps both invariants**: retransmitting the first outstanding segment puts `last_sent_seq_nr` on
that segment (a queued one, below the never-sent tail); with no segment left to send and an unacknowledged FIN it steps
back by one and sends the FIN again, which `maybeSendFin_inv` covers. -/
theorem rtoPhase_inv (v : VSock) (c : Ctx) (hd : Header) (v' : VSock) (c' : Ctx) (b : Bool) (h : LInv v) (hf : FInv v)
    (he : v.rtoPhase c hd = .ok (v', c', b)) : LInv v' ∧ FInv v' := by
  unfold rtoPhase at he
  split at he
  · cases he                                   -- `iter_mut_for_sending` panicked
  rename_i views hviews
  split at he
  · rename_i seg hhead                         -- there is a first outstanding segment
    have hseg := validView_of_iter v.segs none h.sinv views hviews seg (List.mem_of_mem_head? hhead)
    split at he
    · cases he                                 -- `send_data!` failed
    · rename_i v1 c1 hsd                       -- sent (probe or not): `last_sent_seq_nr := seg.seqNr`
      have hf1 := (sendData_finv _ _ _ _ _ _ _ h hf hseg hsd).1
      obtain ⟨_, _, _, _, _, rfl, _⟩ := sendData_ok hsd
      split at he
      rename_i heq
      split at heq <;> cases heq <;> cases he <;> exact ⟨h.sent hseg c.now rfl (.inl rfl), hf1.congr rfl rfl⟩
    · rename_i hsd                             -- transport pending
      cases he
      exact ⟨(sendData_linv _ _ _ _ _ _ _ h hseg hsd).1, (sendData_finv _ _ _ _ _ _ _ h hf hseg hsd).1⟩
    · cases he                                 -- EMSGSIZE is an error here
  · split at he                                -- no segment left to send
    · rename_i fin hfin
      split at he
      · rename_i hls                           -- our FIN was sent: step back and send it again
        have hback := fin_stepback_linv v fin h hf hfin { v with lastSentSeqNr := wsub v.lastSentSeqNr 1 } rfl
          (by rw [hls])
        dsimp only at he
        split at he
        · cases he                             -- `maybe_send_fin` failed
        · rename_i hmf
          obtain ⟨hl2, hf2, _⟩ := maybeSendFin_inv _ _ _ _ _ hback (hf.congr rfl rfl) hmf
          split at he <;> cases he             -- FIN re-sent; not sent
          · exact ⟨hl2.congr rfl rfl, hf2.congr rfl rfl⟩
          · exact ⟨hl2, hf2⟩
      · cases he; exact ⟨h.congr rfl rfl, hf.congr rfl rfl⟩   -- our FIN not yet sent: the timer is disarmed
    · cases he; exact ⟨h.congr rfl rfl, hf.congr rfl rfl⟩     -- no FIN pending: the timer is disarmed

theorem run_inv {hd : Header} {sent : List SegView} {v v' : VSock} {c c' : Ctx}
    (hr : Run hd (ValidView v.segs) sent v c v' c') (h : LInv v) (hf : FInv v) :
    LInv v' ∧ FInv v' ∧ v'.state = v.state :=
  run_linv (Q := fun v1 => FInv v1 ∧ v1.state = v.state)
    (fun hl hV hq hs =>
      have ⟨f, s⟩ := sendData_finv _ _ _ _ _ _ _ hl hq.1 hV hs
      ⟨f, s.trans hq.2⟩) hr h ⟨hf, rfl⟩

/-- **The first-transmission loop keeps both invariants** (and the state). -/
theorem newDataLoop_inv (hd : Header) (views : List SegView) (v : VSock) (c : Ctx) (rem : Nat)
    (v' : VSock) (c' : Ctx) (r : Option (Nat × Nat)) (h : LInv v) (hf : FInv v)
    (hv : ∀ w ∈ views, ValidView v.segs w)
    (hl : newDataLoop hd views v c rem = .ok (v', c', r)) : LInv v' ∧ FInv v' ∧ v'.state = v.state :=
  have ⟨_, hr, _⟩ := newDataLoop_run hv hl
  run_inv hr h hf

/-- **…and so does the loss-recovery retransmission loop.** -/
theorem recoveryLoop_inv (hd : Header) (mss : Nat) (views : List SegView) (v : VSock) (c : Ctx) (l : RecLoop)
    (v' : VSock) (c' : Ctx) (l' : RecLoop) (p : Bool) (h : LInv v) (hf : FInv v)
    (hv : ∀ w ∈ views, ValidView v.segs w)
    (hl : recoveryLoop hd mss views v c l = .ok (v', c', l', p)) : LInv v' ∧ FInv v' ∧ v'.state = v.state :=
  have ⟨_, hr, _⟩ := recoveryLoop_run hv hl
  run_inv hr h hf

end UtpVerif.Props.C17Fin
