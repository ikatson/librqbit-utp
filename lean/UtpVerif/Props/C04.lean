import UtpVerif.Model.Rx
import UtpVerif.Gen.Fns
import UtpVerif.Lemmas.Rx
import UtpVerif.Lemmas.Wire
/-!
# C04 — receiver honesty: acknowledgements and advertised window never overstate

Component level (`stream_rx.rs`), for every arrival order, payload size, reader behaviour and
buffer configuration.  The acknowledgement number the connection emits is
`last_consumed = initial + Σ sequence_numbers` returned by `add_remove` (glue in
`stream_dispatch.rs:1313-1333`, modelled in the connection layer); here it is shown what those
returned counts are.
-/
namespace UtpVerif.Props.C04
open UtpVerif.Model UtpVerif.Model.Rx UtpVerif.Lemmas.Rx UtpVerif.Lemmas.Wire

def qBytes (q : List UserMsg) : Nat := (q.map UserMsg.lenBytes).sum

/-- Invariant of the receive side that holds at every program point (also inside `flush`). -/
structure RxInv0 (r : Rx) : Prop where
  ooq : OoqInv r.ooq
  qbytes : r.qLenBytes = qBytes r.queue
  within : r.qLenBytes ≤ r.qCapacity

/-- Invariant between calls: additionally the remembered window is not larger than the free
space of the reader's queue. -/
structure RxInv (r : Rx) : Prop extends RxInv0 r where
  window : r.lastRemainingRxWindow + r.qLenBytes ≤ r.qCapacity

theorem build_inv (maxRx maxPayload : Nat) : RxInv (Rx.build maxRx maxPayload) :=
  ⟨⟨(build_ooq maxRx maxPayload).1, rfl, Nat.zero_le _⟩, Nat.le_refl _⟩

/-- **The advertised window never exceeds the free space actually left**: what `remaining_rx_window`
reports is at most capacity − bytes queued for the reader − bytes parked in reassembly, and is 0
when the reader is gone. (`rx_window()` rounds it further *down* to a multiple of the segment size.) -/
theorem window_never_overstates (r : Rx) (h : RxInv r) :
    r.remainingRxWindow ≤ r.qCapacity - r.qLenBytes - r.ooq.lenBytes ∧
    (r.readerDropped = true → r.remainingRxWindow = 0) := by
  unfold remainingRxWindow
  refine ⟨?_, fun hd => if_pos hd⟩
  split
  · exact Nat.zero_le _
  · have := h.window; omega

theorem qBytes_append (a b : List UserMsg) : qBytes (a ++ b) = qBytes a + qBytes b := by
  simp [qBytes, List.sum_append]

theorem handOver_inv0 {r : Rx} {m : OoqMsg} (h : RxInv0 r) (hff : 0 < r.ooq.filledFront) (hm : r.ooq.data.head? = some m)
    (hfit : m.lenBytes ≤ r.qCapacity - r.qLenBytes) :
    RxInv0 (handOver r m) ∧ (handOver r m).qLenBytes + (handOver r m).ooq.lenBytes = r.qLenBytes + r.ooq.lenBytes := by
  obtain ⟨_, hle, hinv⟩ := popFront_inv h.ooq hff hm
  have := h.within
  refine ⟨⟨hinv, ?_, by show r.qLenBytes + m.lenBytes ≤ r.qCapacity; omega⟩,
    by show r.qLenBytes + m.lenBytes + (r.ooq.lenBytes - m.lenBytes) = _; omega⟩
  show r.qLenBytes + m.lenBytes = qBytes (r.queue ++ [toUser m])
  rw [qBytes_append, h.qbytes]; cases m <;> rfl

/-- **`flush` cannot panic** (the `try_push_back(..).unwrap()` is unreachable: the reader's queue never
accepts more than its byte capacity), keeps the invariant, conserves bytes, only appends to the
reader's queue, and leaves the remembered window equal to the queue's free space. -/
theorem flush_ok (r : Rx) (h : RxInv0 r) :
    ∃ r' n ws, r.flush = some (r', n, ws) ∧ RxInv r' ∧ r'.qCapacity = r.qCapacity ∧
      r'.qLenBytes + r'.ooq.lenBytes = r.qLenBytes + r.ooq.lenBytes ∧
      r'.lastRemainingRxWindow + r'.qLenBytes = r'.qCapacity ∧
      (∃ moved, r'.queue = r.queue ++ moved) := by
  obtain ⟨⟨r', n, ws⟩, he⟩ := Option.isSome_iff_exists.1 (flush_isSome r h.within)
  have hwin : r.queueWindow + r.qLenBytes = r.qCapacity := by have := h.within; unfold Rx.queueWindow; omega
  obtain ⟨r2, win, woken, ⟨hi, hw, hc, hb, hq⟩, rfl⟩ := flush_preserves
    (I := fun r2 win => RxInv0 r2 ∧ win + r2.qLenBytes = r.qCapacity ∧ r2.qCapacity = r.qCapacity ∧
      r2.qLenBytes + r2.ooq.lenBytes = r.qLenBytes + r.ooq.lenBytes ∧ ∃ moved, r2.queue = r.queue ++ moved)
    (fun r1 win m ⟨hi, hw, hc, hb, moved, hq⟩ hff hm hmw _ hfit =>
      have hw' : win - m.lenBytes + (r1.qLenBytes + m.lenBytes) = r.qCapacity := by omega
      have ⟨hi', hb'⟩ := handOver_inv0 hi hff hm hfit
      ⟨hi', hw', hc, hb'.trans hb, moved ++ [toUser m], by show r1.queue ++ _ = _; rw [hq, List.append_assoc]⟩)
    -- (the invariant is taken apart and put together again wherever the record differs in a field it does not read:
    -- here and at the end `dispatcherWaker`, `readerWaker`, `lastRemainingRxWindow`)
    he ⟨⟨h.ooq, h.qbytes, h.within⟩, hwin, rfl, rfl, [], (List.append_nil _).symm⟩
  exact ⟨_, n, ws, he, ⟨⟨hi.ooq, hi.qbytes, hi.within⟩, Nat.le_of_eq (hw.trans hc.symm)⟩, hc, hb, hw.trans hc.symm, hq⟩

/-- `UserRx::add_remove` never panics, keeps the invariant, and reports exactly what the reassembly
queue reports. -/
theorem addRemove_ok (r : Rx) (ty : Nat) (payload : List Nat) (off : Nat) (h : RxInv r) :
    ∃ r' ws, r.addRemove ty payload off = some (r', (r.ooq.addRemove ty payload off).2, ws) ∧ RxInv r' ∧
      r'.qCapacity = r.qCapacity ∧
      r'.qLenBytes + r'.ooq.lenBytes = r.qLenBytes + (r.ooq.addRemove ty payload off).1.lenBytes := by
  have hbase : RxInv { r with ooq := (r.ooq.addRemove ty payload off).1 } :=
    ⟨⟨(addRemove_inv r.ooq ty payload off h.ooq).1, h.qbytes, h.within⟩, h.window⟩
  rcases rx_addRemove_eq r ty payload off with he | he
  · exact ⟨_, [], he, hbase, rfl, rfl⟩
  · obtain ⟨r2, n, ws, hf, hi2, hc2, hb2, _⟩ := flush_ok _ hbase.toRxInv0
    rw [hf] at he
    exact ⟨r2, ws, he, hi2, hc2, hb2⟩

theorem RxInv.popped {r r' : Rx} (h : RxInv r) (hp : Popped r r') (ho : r'.ooq = r.ooq) (hc : r'.qCapacity = r.qCapacity)
    (hw : r'.lastRemainingRxWindow = r.lastRemainingRxWindow) : RxInv r' := by
  obtain ⟨popped, hq, hl⟩ := hp
  have hb := h.qbytes
  rw [hq, qBytes_append] at hb
  refine ⟨⟨ho ▸ h.ooq, ?_, ?_⟩, ?_⟩
  · rw [hl, hb]; exact Nat.add_sub_cancel_left _ _
  · rw [hl, hc]; exact Nat.le_trans (Nat.sub_le _ _) h.within
  · rw [hl, hc, hw]; exact Nat.le_trans (Nat.add_le_add_left (Nat.sub_le _ _) _) h.window

theorem pollRead_inv (r : Rx) (n : Nat) (h : RxInv r) :
    RxInv (r.pollRead n).1 ∧ (r.pollRead n).1.qCapacity = r.qCapacity ∧ (r.pollRead n).1.ooq = r.ooq := by
  obtain ⟨hp, _, ho, hc, hw, _⟩ := readLoop_frame (2 * (r.queue.length + 2) + 1) r n []
  have i := h.popped hp ho hc hw
  rw [pollRead_eq]
  exact ⟨⟨⟨i.ooq, i.qbytes, i.within⟩, i.window⟩, hc, ho⟩

/-- Operations on the receive side, as the connection task and the application perform them. -/
inductive Op where
  | arrive (ty : Nat) (payload : List Nat) (offset : Nat)   -- any type, any payload, any offset
  | flush
  | read (n : Nat)
  | dropReader
  | enqueueError (msg : String)
  | markClosed

/-- One step; `none` would be a panic of the real code. -/
def step (r : Rx) : Op → Option Rx
  | .arrive ty p off => (r.addRemove ty p off).map (·.1)
  | .flush => r.flush.map (·.1)
  | .read n => some (r.pollRead n).1
  | .dropReader => some r.dropReader.1
  | .enqueueError m => some (r.enqueueError m).1
  | .markClosed => some r.markVsockClosed.1

def run : Rx → List Op → Option Rx
  | r, [] => some r
  | r, op :: ops => match step r op with
    | none => none
    | some r' => run r' ops

theorem step_ok (r : Rx) (op : Op) (h : RxInv r) : ∃ r', step r op = some r' ∧ RxInv r' ∧ r'.qCapacity = r.qCapacity := by
  cases op with
  | arrive ty p off =>
    obtain ⟨r', ws, he, hi, hc, _⟩ := addRemove_ok r ty p off h
    exact ⟨r', by rw [step, he]; rfl, hi, hc⟩
  | flush =>
    obtain ⟨r', n, ws, he, hi, hc, _⟩ := flush_ok r h.toRxInv0
    exact ⟨r', by rw [step, he]; rfl, hi, hc⟩
  | read n => exact ⟨_, rfl, (pollRead_inv r n h).1, (pollRead_inv r n h).2.1⟩
  | dropReader =>
    refine ⟨_, rfl, ?_⟩
    unfold Rx.dropReader
    split <;> exact ⟨⟨⟨h.ooq, h.qbytes, h.within⟩, h.window⟩, rfl⟩
  | enqueueError m =>
    have hq : r.qLenBytes = qBytes (r.queue ++ [UserMsg.error m]) := by rw [qBytes_append, h.qbytes]; rfl
    refine ⟨_, rfl, ?_⟩
    unfold Rx.enqueueError
    dsimp only
    split <;> exact ⟨⟨⟨h.ooq, hq, h.within⟩, h.window⟩, rfl⟩
  | markClosed =>
    refine ⟨_, rfl, ?_⟩
    unfold Rx.markVsockClosed
    split
    · split <;> exact ⟨⟨⟨h.ooq, h.qbytes, h.within⟩, h.window⟩, rfl⟩
    · exact ⟨h, rfl⟩

theorem run_ok (r0 : Rx) (ops : List Op) (h : RxInv r0) : ∃ r, run r0 ops = some r ∧ RxInv r ∧ r.qCapacity = r0.qCapacity := by
  induction ops generalizing r0 with
  | nil => exact ⟨r0, rfl, h, rfl⟩
  | cons op t ih =>
    obtain ⟨r1, he, hi, hc⟩ := step_ok r0 op h
    obtain ⟨r2, he2, hi2, hc2⟩ := ih r1 hi
    exact ⟨r2, by rw [run, he]; exact he2, hi2, hc2.trans hc⟩

/-- **For every arrival order, payload size, reader behaviour and buffer configuration**: the real
code never panics on the receive side, the bytes queued for the reader never exceed the configured
buffer, and the advertised window never exceeds capacity − queued − parked. -/
theorem receive_side_safe (maxRx maxPayload : Nat) (ops : List Op) :
    ∃ r, run (Rx.build maxRx maxPayload) ops = some r ∧
      r.qLenBytes ≤ maxRx ∧ r.remainingRxWindow ≤ maxRx - r.qLenBytes - r.ooq.lenBytes ∧
      (r.readerDropped = true → r.remainingRxWindow = 0) := by
  obtain ⟨r, he, hi, (hc : r.qCapacity = maxRx)⟩ := run_ok _ ops (build_inv maxRx maxPayload)
  have hw := window_never_overstates r hi
  exact ⟨r, he, hc ▸ hi.within, hc ▸ hw.1, hw.2⟩

/-- **What `add_remove` reports as consumed is exactly the run of slots that became contiguous**:
afterwards slots `[old front, old front + n)` are all occupied and the next slot is a hole. Since the
connection adds `n` to the acknowledgement number, it equals the highest sequence number received and
stored in order — never more (the hole), never less (the run). -/
theorem consumed_is_contiguous_run (q : Ooq) (ty : Nat) (payload : List Nat) (off n b : Nat) (h : OoqInv q)
    (hr : (q.addRemove ty payload off).2 = .consumed n b) :
    let q' := (q.addRemove ty payload off).1
    q'.filledFront = q.filledFront + n ∧
    (∀ k, k < q'.filledFront → ∀ m, q'.data[k]? = some m → m.isDefault = false) ∧
    (∀ m, q'.data[q'.filledFront]? = some m → m.isDefault = true) := by
  have hinv := (addRemove_inv q ty payload off h).1
  have hf := addRemove_front q ty payload off
  rw [hr] at hf
  exact ⟨hf, hinv.front_full, hinv.hole⟩

/-- The acknowledgement position never moves backwards on arrivals: `filled_front` only grows
(it shrinks only by handing the front slot to the reader, which does not change the ack number). -/
theorem front_monotone (q : Ooq) (ty : Nat) (payload : List Nat) (off : Nat) :
    q.filledFront ≤ (q.addRemove ty payload off).1.filledFront := by
  rw [addRemove_front]; exact Nat.le_add_right _ _

/-- **Acknowledged data is never discarded**: the only operation that removes an occupied slot is
`send_front_if_fits`, which hands exactly that message (unaltered) to the reader's queue. -/
theorem acked_data_only_leaves_to_reader (q : Ooq) (win : Nat) (acc : Bool) (h : OoqInv q) (m : OoqMsg)
    (hm : (q.sendFrontIfFits win acc).2 = some m) :
    q.data.head? = some m ∧ (q.sendFrontIfFits win acc).1.data = q.data.tail ++ [OoqMsg.default] := by
  obtain ⟨_, h1, _, _, h5⟩ := sendFrontIfFits_some (Prod.ext rfl hm : q.sendFrontIfFits win acc = (_, some m))
  exact ⟨h1, congrArg Ooq.data h5⟩

/-- **Selective-ACK bits are set exactly for packets held out of order**: bit `i` (i < 64) of the
emitted SACK is 1 iff the slot `filled_front + 1 + i` is occupied, i.e. iff sequence number
`ack_nr + 2 + i` is held. -/
theorem sack_bits_exact (q : Ooq) (s : Sack) (hs : q.selectiveAck = some s) (i : Nat) (hi : i < 64) :
    s.bit i = true ↔ ∃ m, q.data[q.filledFront + 1 + i]? = some m ∧ m.isDefault = false := by
  unfold Ooq.selectiveAck at hs
  split at hs
  · cases hs
  · dsimp only at hs
    split at hs
    · cases hs
    · cases hs
      rw [ofIndices_bit _ i hi, mem_takeWhile_occupied]
      simp only [show Gen.SACK_DEPTH = 64 from rfl, hi, true_and, List.getElem?_drop]

-- Non-vacuity: a concrete out-of-order history reaches a state with a hole, a parked packet and a SACK.
example :
    (run (Rx.build 16 4) [.arrive 0 [1, 2] 1, .arrive 0 [3] 3, .flush, .arrive 0 [9, 9, 9] 0, .flush, .read 2]).map
      (fun r => (r.remainingRxWindow, r.ooq.filledFront, r.queue.length, r.ooq.selectiveAck.map (·.asBytes)))
    = some (10, 0, 1, some [1, 0, 0, 0, 0, 0, 0, 0]) := by decide


/-! ### Tie 1b: regenerated definition (see DESIGN 2) -/

/-- `MsgQueue::window()` (stream_rx.rs): free space of the reader's queue. -/
theorem generated_msg_queue_window (r : Rx) : UtpVerif.Gen.Fns.msgQueueWindow r.qCapacity r.qLenBytes = r.queueWindow := rfl

end UtpVerif.Props.C04
