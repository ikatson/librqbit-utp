import UtpVerif.Lemmas.VSockRecv
/-!
# C08 — every connection terminates, frees its slot, and is silent afterwards (connection part)

The socket-table part (slot release, limit) is in `Props/C12.lean` / `C13.lean`.  What the model
cannot exhibit — that Rust runs `Drop` guards when the task's future is dropped, that tokio drops the
future on completion / cancellation, that the socket dispatcher drains its control channel — is assumed.
-/
namespace UtpVerif.Props.C08
open UtpVerif.Model UtpVerif.Model.VSock UtpVerif.Gen UtpVerif.Lemmas.VSock

theorem constants_pinned : SHUTDOWN_FINAL_CHANCE_DELAY = 1000000000 := by decide

theorem armFinalChance_inactivity (v : VSock) :
    v.armFinalChance.timers.inactivity =
      if v.state.isLocalFinOrLater = true then Timer.arm v.timers.inactivity v.pollNow SHUTDOWN_FINAL_CHANCE_DELAY false
      else if v.rx.readerDropped = true ∧ v.tx.writerDropped = true then
        Timer.arm v.timers.inactivity v.pollNow v.opts.inactivityTimeout false
      else v.timers.inactivity := by
  unfold armFinalChance
  split
  · rfl
  · split <;> rfl

/-- **After the local close the inactivity timer is always armed**, no later than it already was and no
later than one second after this poll: every `poll` that returns Pending from a state at or past our own
FIN leaves a bounded deadline after which `RemoteInactiveForTooLong` ends the task. -/
theorem final_chance_armed (v : VSock) (h : v.state.isLocalFinOrLater = true) :
    ∃ d, v.armFinalChance.timers.inactivity = some d ∧ d ≤ v.pollNow + 1000000000 ∧
      (∀ e, v.timers.inactivity = some e → d ≤ e) := by
  rw [armFinalChance_inactivity, if_pos h]
  exact constants_pinned ▸ arm_keep v.timers.inactivity v.pollNow SHUTDOWN_FINAL_CHANCE_DELAY

/-- The final-chance arm never *extends* a deadline (`restart = false`), so repeated polls cannot push the
end of the connection away; only a packet that advances the peer's state restarts the timer. -/
theorem final_chance_never_extends (v : VSock) (e : Nat) (he : v.timers.inactivity = some e) :
    ∃ d, v.armFinalChance.timers.inactivity = some d ∧ d ≤ e := by
  have keep := fun delay => arm_keep v.timers.inactivity v.pollNow delay
  rw [armFinalChance_inactivity]
  split
  · obtain ⟨d, hd, _, hle⟩ := keep SHUTDOWN_FINAL_CHANCE_DELAY; exact ⟨d, hd, hle e he⟩
  · split
    · obtain ⟨d, hd, _, hle⟩ := keep v.opts.inactivityTimeout; exact ⟨d, hd, hle e he⟩
    · exact ⟨e, he, Nat.le_refl _⟩

/-- **Once the application has let go of both halves a Pending poll always leaves the inactivity timer
armed**, whatever the state (data still unsent behind a zero window included), no later than the configured
remote-inactivity timeout after this poll and never later than it already was (D19). -/
theorem app_gone_timer_armed (v : VSock) (hr : v.rx.readerDropped = true) (hw : v.tx.writerDropped = true) :
    ∃ d, v.armFinalChance.timers.inactivity = some d ∧ d ≤ v.pollNow + max 1000000000 v.opts.inactivityTimeout ∧
      (∀ e, v.timers.inactivity = some e → d ≤ e) := by
  have keep := fun delay => arm_keep v.timers.inactivity v.pollNow delay
  rw [armFinalChance_inactivity]
  split
  · obtain ⟨d, hd, hle, hold⟩ := constants_pinned ▸ keep SHUTDOWN_FINAL_CHANCE_DELAY
    exact ⟨d, hd, Nat.le_trans hle (Nat.add_le_add_left (Nat.le_max_left ..) _), hold⟩
  · rw [if_pos ⟨hr, hw⟩]
    obtain ⟨d, hd, hle, hold⟩ := keep v.opts.inactivityTimeout
    exact ⟨d, hd, Nat.le_trans hle (Nat.add_le_add_left (Nat.le_max_right ..) _), hold⟩

/-- Local close is absorbing: every state at or past our FIN stays so under the transition table. -/
theorem local_close_absorbing (v : VSock) (hdr : Header) (h : v.state.isLocalFinOrLater = true) :
    (v.stateGate hdr).vsock.state.isLocalFinOrLater = true := by
  obtain ⟨hst, _⟩ | ⟨_, _, hedge, hg, _⟩ := stateGate_ok v hdr
  · rw [hst] at h; cases h
  · rw [hg]; exact hedge.localFin h

/-- `Closed` (or `LastAck` when the final ACK is not awaited) makes `poll` finish. -/
theorem closed_states_finish (w : Bool) :
    VState.isClosed .closed w = true ∧ (w = false → ∀ a b, VState.isClosed (.lastAck a b) w = true) := by
  constructor
  · rfl
  · intro h a b; simp [VState.isClosed, h]

theorem ackPart_frame {v : VSock} {c : Ctx} {msg : Msg} {v1 : VSock} {c1 : Ctx} {res : OnAckResult}
    (h : v.ackPart c msg = .ok (v1, c1, res)) :
    v1.timers = v.timers ∧ v1.rx = v.rx ∧ v1.lastConsumedRemoteSeqNr = v.lastConsumedRemoteSeqNr := by
  have hc := ackPart_cases v c msg
  rw [h] at hc
  obtain ⟨_, _, _, _, _, _, _, _, _, _, rfl⟩ := hc
  exact ⟨rfl, rfl, rfl⟩

/-- **A data packet that does not advance the stream never touches a timer**: an ST_DATA at or below the
consumed point (an old duplicate, a retransmission the peer keeps sending because our ACKs are lost) is
answered with a forced ACK and leaves every timer - the inactivity deadline in particular - exactly where
it was. So a peer that keeps resending old data cannot keep a closing connection alive. -/
theorem stale_data_keeps_timers (v : VSock) (c : Ctx) (msg : Msg) (psf : Bool) (v' : VSock) (c' : Ctx) (r : OnAckResult)
    (hd : msg.h.htype = Gen.TYPE_ST_DATA)
    (hoff : seqSub msg.h.seqNr (wadd v.lastConsumedRemoteSeqNr 1) < 0)
    (h : v.processAccepted c msg psf = .ok (v', c', r)) : v'.timers = v.timers := by
  obtain ⟨v1, c1, res, ha, h⟩ := processAccepted_ok h
  obtain ⟨ht, _, hlc⟩ := ackPart_frame ha
  rw [payloadPart_stale hd (hlc ▸ hoff)] at h
  cases h
  exact ht

/-- **…and neither does a data packet the reassembly queue does not consume** (already buffered, or beyond
what the window has room for): whatever ACK it triggers, the inactivity deadline stays where it was. Only a
packet that advances the consumed point (`Consumed`) - or an acknowledgement that advances ours - restarts it. -/
theorem unconsumed_data_keeps_inactivity (v : VSock) (c : Ctx) (msg : Msg) (psf : Bool) (v' : VSock) (c' : Ctx) (r : OnAckResult)
    (hd : msg.h.htype = Gen.TYPE_ST_DATA)
    (hoff : ¬ seqSub msg.h.seqNr (wadd v.lastConsumedRemoteSeqNr 1) < 0)
    (rx' : Rx) (ar : AddRemove) (ws : List Wake)
    (har : v.rx.addRemove msg.h.htype msg.payload (seqSub msg.h.seqNr (wadd v.lastConsumedRemoteSeqNr 1)).toNat = some (rx', ar, ws))
    (hnc : ar = .unavailable ∨ ar = .alreadyPresent)
    (h : v.processAccepted c msg psf = .ok (v', c', r)) : v'.timers.inactivity = v.timers.inactivity := by
  obtain ⟨v1, c1, res, ha, h⟩ := processAccepted_ok h
  obtain ⟨ht, hrx, hlc⟩ := ackPart_frame ha
  obtain hi | ⟨_, _, _, _, _, hcons⟩ := (payloadPart_ok h).2
  · rw [hi, ht]
  · rw [hrx, hlc, har] at hcons
    rcases hnc with rfl | rfl <;> cases hcons
end UtpVerif.Props.C08
