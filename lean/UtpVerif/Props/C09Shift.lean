import UtpVerif.Model.Segments
import UtpVerif.Props.C09
import UtpVerif.Lemmas.Segments
/-!
# C09 (continued) — the segment queue is invariant under relabelling of sequence numbers

`Segments` stores only its first unacknowledged number; every other number is a position. These theorems show
that its acknowledgement processing (cumulative drain, selective-ACK marking, front clean-up) and its flight
size commute with moving every sequence number by the same `d` (with 16-bit wrap), for every queue, every ACK,
every SACK and every `d` - as long as the compared pairs are within the tolerance, which a window bound gives.
-/
namespace UtpVerif.Props.C09Shift
open UtpVerif.Model UtpVerif.Model.Segments UtpVerif.Gen UtpVerif.Props.C09 UtpVerif.Lemmas.Segments

/-- relabel the queue: every sequence number moved by `d` -/
def shiftS (d : Nat) (s : Segments) : Segments := { s with sndUna := wadd s.sndUna d }

theorem shiftS_segs (d : Nat) (s : Segments) : (shiftS d s).segs = s.segs := rfl
theorem shiftS_lenBytes (d : Nat) (s : Segments) : (shiftS d s).lenBytes = s.lenBytes := rfl
theorem shiftS_sndUna (d : Nat) (s : Segments) : (shiftS d s).sndUna = wadd s.sndUna d := rfl

/-- the pair's distance is within the tolerance, so its 16-bit comparison is the true modular one -/
def NA (a b : Nat) : Prop := (modDist a b).natAbs ≤ WRAP_TOLERANCE

theorem seqSub_shift (a b d : Nat) (ha : a < 65536) (hb : b < 65536) (h : NA a b) :
    seqSub (wadd a d) (wadd b d) = seqSub a b :=
  seqOffset_shift a b d _ ha hb wrap_tolerance_le h

theorem wadd_comm1 (x d k : Nat) : wadd (wadd x d) k = wadd (wadd x k) d := by
  simp only [wadd, Nat.mod_add_mod, Nat.add_right_comm]

theorem popFront_shift (k d : Nat) (s : Segments) : popFront k (shiftS d s) = shiftS d (popFront k s) := by
  simp only [popFront, shiftS, advance, wadd, Nat.mod_add_mod, Nat.add_right_comm]

/-- (`wadd ackNr 2`: the first selective-ACK bit stands for `ack_nr + 2`) -/
theorem sackPhase_shift (now ackNr d : Nat) (sack : Option Sack) (s1 : Segments) (a1 : AckAcc)
    (hu : s1.sndUna < 65536) (hack : ackNr < 65536) (h1 : NA s1.sndUna ackNr) (h2 : NA (wadd ackNr 2) s1.sndUna) :
    sackPhase now (wadd ackNr d) sack (shiftS d s1) a1 =
      (shiftS d (sackPhase now ackNr sack s1 a1).1, (sackPhase now ackNr sack s1 a1).2) := by
  unfold sackPhase firstSeqNr
  rw [shiftS_segs, shiftS_sndUna]
  cases s1.segs.isEmpty
  · cases sack with
    | none => rfl
    | some sk =>
      simp only [Bool.false_eq_true, if_false, seqGt, seqSub_shift _ _ _ hu hack h1, wadd_comm1 ackNr d 2,
        seqSub_shift _ _ _ (wadd_lt ackNr 2) hu h2]
      split
      · split <;> rfl
      · rfl
  · rfl

/-- **The acknowledgement processing of the segment queue is invariant under relabelling**: moving the queue's
first unacknowledged number and the ACK number by the same `d` (with 16-bit wrap) gives the same result with every
number moved by `d` - provided no compared pair is out of tolerance (which the window bounds guarantee, see
`C09.default_windows_within_tolerance`). -/
theorem removeUpToAck_shift (s : Segments) (now ackNr d : Nat) (sack : Option Sack)
    (hu : s.sndUna < 65536) (hack : ackNr < 65536) (hA : NA ackNr s.sndUna)
    (hB : ∀ k ≤ s.segs.length, NA (wadd s.sndUna k) ackNr ∧ NA (wadd ackNr 2) (wadd s.sndUna k)) :
    removeUpToAck (shiftS d s) now (wadd ackNr d) sack =
      (removeUpToAck s now ackNr sack).map (fun p => (shiftS d p.1, p.2)) := by
  have hcum : cumAcked (shiftS d s) (wadd ackNr d) = cumAcked s ackNr := by
    simp only [cumAcked, shiftS_sndUna, shiftS_segs, seqSub_shift _ _ _ hack hu hA]
  have hB' : NA (popFront (cumAcked s ackNr) s).sndUna ackNr ∧ NA (wadd ackNr 2) (popFront (cumAcked s ackNr) s).sndUna :=
    hB _ (cumAcked_le s ackNr)
  rw [removeUpToAck_closed _ _ _ _ hu, removeUpToAck_closed _ _ _ _ (wadd_lt _ _), hcum, popFront_shift]
  dsimp only [shiftS_lenBytes, shiftS_segs]
  by_cases h1 : s.lenBytes < sizes (s.segs.take (cumAcked s ackNr)) <;> simp only [h1, if_true, if_false]
  · rfl
  rw [sackPhase_shift now ackNr d sack (popFront (cumAcked s ackNr) s) _ (wadd_lt _ _) hack hB'.1 hB'.2]
  generalize sackPhase now ackNr sack (popFront (cumAcked s ackNr) s) (drained now {} (s.segs.take (cumAcked s ackNr))) = p
  simp only [shiftS_lenBytes, shiftS_segs, popFront_shift]
  by_cases h3 : p.1.lenBytes < sizes (p.1.segs.take (deliveredFront p.1.segs)) <;> simp only [h3, if_true, if_false] <;> rfl

/-- The tolerance hypotheses of `removeUpToAck_shift` follow from a window bound: the ACK number is within
`WRAP_TOLERANCE - queue length - 2` of the queue's front (the default configuration keeps queue and reorder
window far below that, `C09.default_windows_within_tolerance`). -/
theorem na_of_window (s : Segments) (ackNr : Nat) (hu : s.sndUna < 65536) (hack : ackNr < 65536)
    (hw : (modDist ackNr s.sndUna).natAbs + s.segs.length + 2 ≤ WRAP_TOLERANCE) :
    NA ackNr s.sndUna ∧ ∀ k ≤ s.segs.length, NA (wadd s.sndUna k) ackNr ∧ NA (wadd ackNr 2) (wadd s.sndUna k) := by
  obtain ⟨h1, h2, h3⟩ := modDist_spec ackNr s.sndUna hack hu
  have ht := wrap_tolerance_value
  unfold NA
  generalize modDist ackNr s.sndUna = d0 at *
  refine ⟨by omega, fun k hk => ?_⟩
  -- from `ack = snd_una + d0`: the `k`-th queued number is `k - d0` after `ack`, and `ack + 2` is `d0 + 2 - k` after it
  rw [modDist_unique (d := k - d0) (wadd_lt _ _) hack (by omega) (by omega) (by unfold wadd; omega),
    modDist_unique (d := d0 + 2 - k) (wadd_lt _ _) (wadd_lt _ _) (by omega) (by omega) (by unfold wadd; omega)]
  omega

/-- flight size is invariant under relabelling -/
theorem calcFlightSize_shift (s : Segments) (lss d : Nat) (hu : s.sndUna < 65536) (hl : lss < 65536) (h : NA lss s.sndUna) :
    calcFlightSize (shiftS d s) (wadd lss d) = calcFlightSize s lss := by
  unfold calcFlightSize
  rw [shiftS_sndUna, seqSub_shift _ _ _ hl hu h]
  rfl

/-! ### Non-vacuity -/

example : NA 5 65530 := by unfold NA; decide

end UtpVerif.Props.C09Shift
