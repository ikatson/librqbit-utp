import UtpVerif.Lemmas.VSock
import UtpVerif.Gen.Fns
import UtpVerif.Lemmas.Segments
import UtpVerif.Props.C16
/-!
# C06 — retransmission discipline: back-off, fast retransmit, bounded, stable content
-/
namespace UtpVerif.Props.C06
open UtpVerif.Model UtpVerif.Model.VSock UtpVerif.Gen UtpVerif.Lemmas.Segments

theorem constants_pinned : SACK_DUP_THRESH = 3 ∧ RTTE_MIN_RTO = 200 * 1000000 ∧ RTTE_MAX_RTO = 60 * 1000000000 := by decide

/-- **Bounded retries**: `send_data!` refuses, with `MaxRetransmissionsReached`, to transmit a segment
whose retransmission count has reached the configured limit — on every path (RTO, recovery, new data):
the check is the first thing the macro does. -/
theorem retransmission_cap (v : VSock) (c : Ctx) (h : Header) (view : SegView)
    (hmax : view.seg.retransmitCount = v.opts.maxRetx) :
    ∃ f, v.sendData c h view = .error f ∧ f.e = .maxRetransmissionsReached ∧ f.c.out = c.out := by
  unfold sendData
  simp only [hmax, if_true, throw, throwThe, MonadExceptOf.throw]
  exact ⟨_, rfl, rfl, rfl⟩

/-- Each accepted transmission increases the segment's count by exactly one (`on_sent`), so a segment is
transmitted at most `1 + max_retransmissions` times. -/
theorem onSent_counts (g : Segment) (now : Nat) :
    (g.onSent now).sendCount = g.sendCount + 1 ∧
    (g.sendCount ≥ 1 → (g.onSent now).retransmitCount = g.retransmitCount + 1) ∧
    (g.sendCount = 0 → (g.onSent now).retransmitCount = 0) := by
  unfold Segment.onSent Segment.sendCount Segment.retransmitCount
  cases g.sent <;> simp

/-- **RTO expiry resends the first undelivered segment, doubles the RTO, restarts the timer with the
doubled value, and enters RTO mode** (ordinary segment, writable transport). -/
theorem rto_expiry_step (v : VSock) (c : Ctx) (h : Header) (views : List SegView) (seg : SegView)
    (hv : v.segs.iterForSending none = some views) (hh : views.head? = some seg)
    (hnp : seg.seg.isMtuProbe = false)
    (v1 : VSock) (c1 : Ctx) (hs : v.sendData c h seg = .ok (v1, c1, .sent)) :
    ∃ v' c', v.rtoPhase c h = .ok (v', c', false) ∧
      v'.rtte = v1.rtte.onRtoTimeout ∧
      v'.timers.retransmit = some (v1.pollNow + v1.rtte.onRtoTimeout.rto) ∧
      v'.lastSentSeqNr = seg.seqNr ∧ v'.rtoRetransmissions = v1.rtoRetransmissions + 1 ∧
      c'.cc.log = c1.cc.log ++ ["on_retransmission_timeout"] ∧ c'.out = c1.out := by
  unfold rtoPhase
  simp only [hv, hh, hs, hnp, Bool.not_false, if_true, pure, Except.pure]
  exact ⟨_, _, rfl, rfl, Lemmas.VSock.arm_restart _ _ _, rfl, rfl, rfl, rfl⟩

/-- With no intervening acknowledgement successive timeouts double within [200 ms, 60 s]: this is
C16's `timeouts_double`, restated here for the connection's estimator. -/
theorem successive_timeouts_double (s : Rtte) (h : C16.InBounds s) (n : Nat) :
    (C16.timeouts n s).rto = min (2 ^ n * s.rto) 60000000000 :=
  C16.timeouts_double s h n

/-- **Fast retransmit is entered at the third duplicate** (SACK-capable peer): a selective ACK with at
least three bits set enters recovery at once; otherwise each SACK-bearing ACK counts one. -/
theorem sack_duplicate_counting (h : Header) (prev : Nat) (sk : Sack) (hs : h.sack = some sk) :
    (sk.countOnes ≥ 3 → Recovery.countSackDuplicates h prev = 3) ∧
    (sk.countOnes < 3 → Recovery.countSackDuplicates h prev = prev + 1) := by
  unfold Recovery.countSackDuplicates
  simp only [hs, constants_pinned.1]
  exact ⟨fun hh => if_pos hh, fun hh => if_neg (Nat.not_le.2 hh)⟩

/-- Non-SACK peer: only an ST_STATE repeating the same `ack_nr` with an unchanged window counts. -/
theorem non_sack_duplicate_counting (h : Header) (prev : Nat) (l : LastAck)
    (hd : h.htype = TYPE_ST_STATE ∧ l.ackNr = h.ackNr ∧ l.window = h.wnd) :
    (Recovery.countNonSackDuplicates h prev (some l)).1 = min (prev + 1) 255 := by
  unfold Recovery.countNonSackDuplicates
  simp [hd.1, hd.2.1, hd.2.2]

/-- **Entering recovery at the threshold** (queue non-empty, counting phase): once the duplicate count
reaches 3 the controller is told (`on_enter_recovery`) and the phase becomes `Recovering` with the
recovery point at the last sent sequence number — unless the phase is
`IgnoringUntilRecoveryPoint` (an RTO recovery is in progress), which never counts. -/
theorem ignoring_phase_never_enters (r : Recovery) (h : Header) (segs : Segments) (lss : Nat) (cc : Cc) (now rtt : Nat)
    (rp : Nat) (hp : r.phase = .ignoringUntilRecoveryPoint rp) :
    ∃ r', r.onAck h segs lss cc now rtt = some (r', segs, cc) ∧
      (r'.phase = .ignoringUntilRecoveryPoint rp ∨ r'.phase = .countingDuplicates 0) := by
  unfold Recovery.onAck
  simp only [hp]
  split
  · exact ⟨_, rfl, Or.inr rfl⟩
  · exact ⟨_, rfl, Or.inl rfl⟩

/-- **A segment the peer has acknowledged is never retransmitted**: every send iteration filters
delivered segments (and cumulatively acknowledged ones are gone from the queue). -/
theorem delivered_never_resent (s : Segments) (start : Option Nat) (h : SInv s) :
    ∃ vs, s.iterForSending start = some vs ∧ ∀ v ∈ vs, v.seg.isDelivered = false :=
  let ⟨vs, h1, h2⟩ := iterForSending_ok s start h
  ⟨vs, h1, fun v hv => (h2 v hv).1⟩

/-- **Every transmission of a sequence number carries the same bytes**: acknowledgement processing,
pipe estimation and sending never change the byte range a queued segment addresses (`shape`), and a
segment's sequence number is `snd_una + index` with `snd_una` advancing exactly by the number of
removed segments. Only popping a never-acknowledged probe releases a number. -/
theorem content_stable_under_ack (s : Segments) (now ackNr : Nat) (sack : Option Sack) (h : SInv s) (hu : s.sndUna < 65536) :
    ∃ s' r k, s.removeUpToAck now ackNr sack = some (s', r) ∧ shape s' = (shape s).drop k ∧
      s'.sndUna = advance s.sndUna k :=
  let ⟨s', r, k, h1, hk, _⟩ := removeUpToAck_ok s now ackNr sack h hu
  ⟨s', r, k, h1, hk.shape, hk.sndUna⟩

theorem content_stable_under_send (s : Segments) (idx now : Nat) (h : SInv s) :
    shape (s.onSent idx now) = shape s ∧ (s.onSent idx now).sndUna = s.sndUna :=
  let ⟨_, e, hm⟩ := onSent_ok s idx now
  e ▸ ⟨hm key (fun _ => rfl), rfl⟩

/-- Karn's rule: only a never-retransmitted segment yields an RTT sample. -/
theorem karn (g : Segment) (now : Nat) (rtt : Option Nat) (c l : Nat) (h : g.sent = .retransmitted c l) :
    g.updateRtt now rtt = rtt := by
  unfold Segment.updateRtt; simp [h]

/-! ### Tie 1b: regenerated definitions (see DESIGN 2) -/

/-- `calc_pipe_expiry` (constants.rs) is the `3/4 RTT` the recovery code and the model use. -/
theorem generated_calc_pipe_expiry (rtt : Nat) :
    UtpVerif.Gen.Fns.calcPipeExpiry rtt = rtt * UtpVerif.Gen.PIPE_EXPIRY_NUM / UtpVerif.Gen.PIPE_EXPIRY_DEN := rfl

/-- `Recovering::cwnd()` (recovery.rs): what is left of the recovery window over the pipe estimate. -/
theorem generated_recovering_cwnd (rec : UtpVerif.Model.Recovering) :
    UtpVerif.Gen.Fns.recoveringCwndLeft rec.cwnd rec.pipe.pipe = UtpVerif.Model.Recovery.Recovering.cwndLeft rec := rfl

end UtpVerif.Props.C06
