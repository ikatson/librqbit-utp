import UtpVerif.Model.Wire
import UtpVerif.Lemmas.Wire
/-!
# C11 — wire format: total parser, lossless round-trip, well-formed output

`Chain` is the *specification* of a BEP-29 extension chain, written as an inductive relation from
the BEP text (each extension = next-id byte, length byte, that many bytes; id 0 ends the chain).
The parser of `raw.rs` (model `Header.deserialize`) is proved to accept exactly the byte strings
the specification accepts, with the payload boundary where the specification puts it.
-/
namespace UtpVerif.Props.C11
open UtpVerif.Model UtpVerif.Gen UtpVerif.Lemmas.Wire

/-- `Chain id buf n`: starting with pending extension id `id`, the bytes `buf` contain a complete
extension chain occupying exactly `n` bytes. -/
inductive Chain : Nat → List Nat → Nat → Prop
  | done (buf : List Nat) : Chain 0 buf 0
  | ext (id next len : Nat) (rest : List Nat) (n : Nat) :
      id ≠ 0 → len ≤ rest.length → Chain next (rest.drop len) n →
      Chain id (next :: len :: rest) (2 + len + n)

theorem deserialize_eq_some_iff (buf : List Nat) (h : Header) (n : Nat) :
    Header.deserialize buf = some (h, n) ↔
      20 ≤ buf.length ∧ buf.getD 0 0 % 16 = 1 ∧ buf.getD 0 0 / 16 ≤ 4 ∧
      ∃ sack cr tot, parseExts (buf.getD 1 0) (buf.drop 20) none none 0 = some (sack, cr, tot) ∧ n = 20 + tot ∧
        h = { htype := buf.getD 0 0 / 16, connId := be16 (buf.getD 2 0) (buf.getD 3 0),
              ts := be32 (buf.getD 4 0) (buf.getD 5 0) (buf.getD 6 0) (buf.getD 7 0),
              tsDiff := be32 (buf.getD 8 0) (buf.getD 9 0) (buf.getD 10 0) (buf.getD 11 0),
              wnd := be32 (buf.getD 12 0) (buf.getD 13 0) (buf.getD 14 0) (buf.getD 15 0),
              seqNr := be16 (buf.getD 16 0) (buf.getD 17 0), ackNr := be16 (buf.getD 18 0) (buf.getD 19 0),
              sack := sack, closeReason := cr } := by
  simp only [Header.deserialize, show UTP_HEADER = 20 from rfl, show WIRE_VERSION = 1 from rfl]
  constructor
  · intro hd
    split at hd; · cases hd
    split at hd; · cases hd
    split at hd; · cases hd
    split at hd; · cases hd
    rename_i h0 h1 h2 _ sack cr tot hp
    cases hd
    exact ⟨Nat.not_lt.mp h0, Decidable.not_not.mp h1, Nat.not_lt.mp h2, sack, cr, tot, hp, rfl, rfl⟩
  · rintro ⟨h0, h1, h2, sack, cr, tot, hp, rfl, rfl⟩
    rw [if_neg (Nat.not_lt.mpr h0), if_neg (Decidable.not_not.mpr h1), if_neg (Nat.not_lt.mpr h2), hp]

theorem parseExts_isSome_iff (id : Nat) (buf : List Nat) (s : Option Sack) (c : Option Nat) (t t' : Nat) :
    (∃ s' c', parseExts id buf s c t = some (s', c', t')) ↔ ∃ n, t' = t + n ∧ Chain id buf n := by
  constructor
  · rintro ⟨s', c', h⟩
    fun_induction parseExts id buf s c t with
    | case1 buf s c t => cases h; exact ⟨0, rfl, Chain.done _⟩
    | case2 id s c t hid next extLen rest hlen extData sack' cr' ih =>
      obtain ⟨n, hn, hc⟩ := ih h
      exact ⟨2 + extLen + n, by omega, Chain.ext id next extLen rest n hid hlen hc⟩
    | case3 => cases h
    | case4 => cases h
  · rintro ⟨n, rfl, hc⟩
    induction hc generalizing s c t with
    | done buf => exact ⟨s, c, parseExts_zero _ _ _ _⟩
    | ext id next len rest n hid hlen _ ih =>
      obtain ⟨s', c', h⟩ := ih _ _ (t + 2 + len)
      exact ⟨s', c', by rw [parseExts_cons _ _ _ _ _ _ _ hid hlen, h]; congr 3; omega⟩

theorem Chain.le_length {id : Nat} {buf : List Nat} {n : Nat} (h : Chain id buf n) : n ≤ buf.length := by
  induction h with
  | done => exact Nat.zero_le _
  | ext id next len rest n _ hlen _ ih => simp only [List.length_cons, List.length_drop] at ih ⊢; omega

theorem chain_functional (id : Nat) (buf : List Nat) (n m : Nat)
    (h1 : Chain id buf n) (h2 : Chain id buf m) : n = m := by
  induction h1 generalizing m with
  | done buf => cases h2 with
    | done => rfl
    | ext _ _ _ _ _ hid => exact absurd rfl hid
  | ext id next len rest n hid hlen _ ih =>
    cases h2 with
    | done => exact absurd rfl hid
    | ext _ _ _ _ n' _ _ hc' => rw [ih _ hc']

/-- **The parser accepts exactly**: at least 20 bytes, version nibble 1, type nibble ≤ 4, and an
extension chain that fits in the datagram — and then reports the header size `20 + chain size`
(**unknown extensions are skipped without shifting the payload boundary**). Both directions. -/
theorem deserialize_accepts_iff (buf : List Nat) (hsize : Nat) :
    (∃ h, Header.deserialize buf = some (h, hsize)) ↔
    (20 ≤ buf.length ∧ buf.getD 0 0 % 16 = 1 ∧ buf.getD 0 0 / 16 ≤ 4 ∧
      ∃ n, Chain (buf.getD 1 0) (buf.drop 20) n ∧ hsize = 20 + n) := by
  simp only [deserialize_eq_some_iff]
  constructor
  · rintro ⟨_, h0, h1, h2, s, c, t, hp, rfl, _⟩
    obtain ⟨n, hn, hc⟩ := (parseExts_isSome_iff _ _ _ _ _ _).1 ⟨s, c, hp⟩
    exact ⟨h0, h1, h2, n, hc, by omega⟩
  · rintro ⟨h0, h1, h2, n, hc, rfl⟩
    obtain ⟨s, c, hp⟩ := (parseExts_isSome_iff _ _ none none 0 _).2 ⟨n, rfl, hc⟩
    exact ⟨_, h0, h1, h2, s, c, _, hp, by omega, rfl⟩

theorem message_eq_some_iff (buf : List Nat) (h : Header) (p : List Nat) :
    Message.deserialize buf = some (h, p) ↔
      ∃ hsize, Header.deserialize buf = some (h, hsize) ∧ (h.htype = 0 ↔ buf.length > hsize) ∧ p = buf.drop hsize := by
  unfold Message.deserialize
  cases Header.deserialize buf with
  | none => exact ⟨(fun e => nomatch e), fun ⟨_, e, _⟩ => nomatch e⟩
  | some q =>
    obtain ⟨h', hsize⟩ := q
    simp only [show TYPE_ST_DATA = 0 from rfl, Option.some.injEq, Prod.mk.injEq]
    constructor
    · intro hm
      refine ⟨hsize, ?_⟩
      split at hm <;> split at hm <;> cases hm
      · exact ⟨⟨rfl, rfl⟩, iff_of_true ‹_› (by omega), rfl⟩
      · exact ⟨⟨rfl, rfl⟩, iff_of_false ‹_› (by omega), rfl⟩
    · rintro ⟨_, ⟨rfl, rfl⟩, c, rfl⟩
      by_cases hty : h'.htype = 0
      · rw [if_pos hty, if_neg (by have := c.1 hty; omega)]
      · rw [if_neg hty, if_neg (fun hp => hty (c.2 (by omega)))]

/-- **Payload present exactly for data packets** (`UtpMessage::deserialize`). -/
theorem message_accepts_iff (buf : List Nat) :
    (Message.deserialize buf).isSome ↔
    ∃ h hsize, Header.deserialize buf = some (h, hsize) ∧
      (h.htype = 0 ↔ buf.length > hsize) := by
  rw [Option.isSome_iff_exists]
  constructor
  · rintro ⟨⟨h, p⟩, hm⟩
    obtain ⟨hsize, hd, c, _⟩ := (message_eq_some_iff buf h p).1 hm
    exact ⟨h, hsize, hd, c⟩
  · rintro ⟨h, hsize, hd, c⟩
    exact ⟨_, (message_eq_some_iff buf h _).2 ⟨hsize, hd, c, rfl⟩⟩

/-- The payload handed on is exactly the bytes after the header (no shift). -/
theorem message_payload (buf : List Nat) (h : Header) (p : List Nat)
    (hm : Message.deserialize buf = some (h, p)) :
    ∃ hsize, Header.deserialize buf = some (h, hsize) ∧ p = buf.drop hsize :=
  let ⟨hsize, hd, _, hp⟩ := (message_eq_some_iff buf h p).1 hm
  ⟨hsize, hd, hp⟩

/-- The 20 fixed bytes `serialize` writes. -/
def baseBytes (h : Header) (ext : Nat) : List Nat :=
  [(h.htype * 16 + 1) % 256, ext,
   h.connId / 256 % 256, h.connId % 256,
   h.ts / 16777216 % 256, h.ts / 65536 % 256, h.ts / 256 % 256, h.ts % 256,
   h.tsDiff / 16777216 % 256, h.tsDiff / 65536 % 256, h.tsDiff / 256 % 256, h.tsDiff % 256,
   h.wnd / 16777216 % 256, h.wnd / 65536 % 256, h.wnd / 256 % 256, h.wnd % 256,
   h.seqNr / 256 % 256, h.seqNr % 256, h.ackNr / 256 % 256, h.ackNr % 256]

theorem deserialize_base (h : Header) (ext : Nat) (tail : List Nat) (sack : Option Sack) (cr : Option Nat) (tot : Nat)
    (hwf : HeaderWF h) (hp : parseExts ext tail none none 0 = some (sack, cr, tot)) :
    Header.deserialize (baseBytes h ext ++ tail) =
      some ({ h with sack := sack, closeReason := cr }, 20 + tot) := by
  obtain ⟨h1, h2, h3, h4, h5, h6, h7, _⟩ := hwf
  have hb : ∀ t ≤ 4, (t * 16 + 1) % 256 % 16 = 1 ∧ (t * 16 + 1) % 256 / 16 = t := by decide
  rw [deserialize_eq_some_iff]
  simp only [baseBytes, List.cons_append, List.length_cons, List.getD_cons_zero, List.getD_cons_succ,
    List.drop_succ_cons, List.drop_zero, List.nil_append]
  rw [(hb _ h1).2, be16_toBe16 _ h2, be16_toBe16 _ h3, be16_toBe16 _ h4, be32_toBe32 _ h5, be32_toBe32 _ h6,
    be32_toBe32 _ h7]
  exact ⟨Nat.le_add_left 20 _, (hb _ h1).1, h1, sack, cr, tot, hp, rfl, rfl⟩

/-- What `serialize` appends for the optional extensions, and the id it leaves in front of each. -/
def crExt : Option Nat → List Nat
  | none => []
  | some r => 0 :: 4 :: closeReasonBytes r
def crId : Option Nat → Nat
  | none => 0
  | some _ => 3
def sackExt (cr : Option Nat) : Option Sack → List Nat
  | none => []
  | some s => crId cr :: s.asBytes.length :: s.asBytes
def firstId (cr : Option Nat) : Option Sack → Nat
  | none => crId cr
  | some _ => 1

/-- the selective ACK, if its extension fits behind the 20 fixed bytes -/
def fitSack (bufLen : Nat) (sack : Option Sack) : Option Sack :=
  sack.filter fun s => 20 + 2 + s.asBytes.length ≤ bufLen

/-- the close reason, if its extension (2 + 4 bytes) fits behind what is written before it -/
def fitCr (bufLen : Nat) (sack : Option Sack) (cr : Option Nat) : Option Nat :=
  cr.filter fun _ => 20 + (sackExt none sack).length + 2 + 4 ≤ bufLen

/-- **What `serialize` writes into a buffer of any size that holds the fixed header**: the 20 fixed bytes, then each
extension in turn if it still fits. -/
theorem serialize_eq (h : Header) (bufLen : Nat) (hbuf : 20 ≤ bufLen) :
    h.serialize bufLen =
      some (baseBytes h (firstId (fitCr bufLen (fitSack bufLen h.sack) h.closeReason) (fitSack bufLen h.sack)) ++
        sackExt (fitCr bufLen (fitSack bufLen h.sack) h.closeReason) (fitSack bufLen h.sack) ++
        crExt (fitCr bufLen (fitSack bufLen h.sack) h.closeReason)) := by
  -- At each stage what is written so far is `pre ++ 0 :: mid`, the 0 being the pending next-extension byte: before the
  -- selective ACK `pre` is the first byte; behind it, `pre` is the whole fixed header, now with the id 1 in that place.
  have crStage : ∀ (pre mid : List Nat) (sk : Option Sack), (pre ++ NO_NEXT_EXT :: mid).length = 20 + (sackExt none sk).length →
      (match h.closeReason with
        | some r => addExt bufLen (pre ++ NO_NEXT_EXT :: mid) pre.length EXT_CLOSE_REASON (closeReasonBytes r)
        | none => (pre ++ NO_NEXT_EXT :: mid, pre.length)).1 =
      pre ++ crId (fitCr bufLen sk h.closeReason) :: mid ++ crExt (fitCr bufLen sk h.closeReason) := by
    intro pre mid sk hl
    cases h.closeReason with
    | none => exact (List.append_nil _).symm
    | some r =>
      rw [fitCr, Option.filter_some, ← hl]
      dsimp only
      by_cases hf : (pre ++ NO_NEXT_EXT :: mid).length + 2 + 4 ≤ bufLen
      · rw [if_pos (decide_eq_true hf), addExt_fit _ _ _ _ _ _ _ rfl hf]; rfl
      · rw [if_neg (mt of_decide_eq_true hf), addExt_nofit _ _ _ _ _ hf]; exact (List.append_nil _).symm
  unfold Header.serialize
  rw [if_neg (show ¬ bufLen < UTP_HEADER from Nat.not_lt.2 hbuf)]
  dsimp only
  generalize hb : (_ ++ toBe16 h.ackNr : List Nat) = base
  obtain rfl : base = (baseBytes h 0).take 1 ++ NO_NEXT_EXT :: (baseBytes h 0).drop 2 := hb.symm
  have noSack := crStage ((baseBytes h 0).take 1) ((baseBytes h 0).drop 2) none rfl
  cases h.sack with
  | none => exact congrArg some noSack
  | some s =>
    rw [fitSack, Option.filter_some]
    dsimp only
    by_cases hf : 20 + 2 + s.asBytes.length ≤ bufLen
    · have hm : s.asBytes.length % 256 = s.asBytes.length :=
        Nat.mod_eq_of_lt (Nat.lt_of_le_of_lt (sack_asBytes_length s) (by decide))
      rw [if_pos (decide_eq_true hf), addExt_fit bufLen ((baseBytes h 0).take 1) ((baseBytes h 0).drop 2) NO_NEXT_EXT 1 EXT_SELECTIVE_ACK s.asBytes rfl hf, hm]
      exact congrArg some (crStage (baseBytes h EXT_SELECTIVE_ACK) (s.asBytes.length :: s.asBytes) (some s)
        (by rw [List.length_append]; rfl))
    · rw [if_neg (mt of_decide_eq_true hf), addExt_nofit _ _ 1 EXT_SELECTIVE_ACK s.asBytes hf]
      exact congrArg some noSack

theorem parseExts_crExt (cr : Option Nat) (hc : ∀ r, cr = some r → r < 65536) (s : Option Sack) (t : Nat) :
    parseExts (crId cr) (crExt cr) s none t = some (s, cr, t + (crExt cr).length) := by
  cases cr with
  | none => exact parseExts_zero _ _ _ _
  | some r =>
    have := parseExts_step 3 0 (closeReasonBytes r) [] s none t (by decide)
    rw [List.append_nil, parseExts_zero, if_neg (by decide), if_pos ⟨by decide, rfl, rfl⟩,
      closeReason_roundtrip r (hc r rfl)] at this
    exact this

theorem parseExts_exts (sack : Option Sack) (cr : Option Nat) (hs : ∀ s, sack = some s → SackWF s)
    (hc : ∀ r, cr = some r → r < 65536) :
    parseExts (firstId cr sack) (sackExt cr sack ++ crExt cr) none none 0 =
      some (sack, cr, (sackExt cr sack ++ crExt cr).length) := by
  cases sack with
  | none => simpa [firstId, sackExt] using parseExts_crExt cr hc none 0
  | some s =>
    rw [firstId, sackExt, List.cons_append, List.cons_append, parseExts_step 1 _ _ _ _ _ _ (by decide),
      if_pos (show 1 = EXT_SELECTIVE_ACK from rfl), if_neg (fun h => h.1 rfl), parseExts_crExt cr hc, sack_deserialize_asBytes s (hs s rfl)]
    simp only [List.length_cons, List.length_append]; congr 3; omega

/-- **Round trip for every buffer that holds the fixed header**: what `serialize` writes parses back to the header with
exactly the extensions that fitted, and to the length written. -/
theorem serialize_parses (h : Header) (bufLen : Nat) (hwf : HeaderWF h) (hbuf : 20 ≤ bufLen) :
    ∃ out, h.serialize bufLen = some out ∧
      Header.deserialize out =
        some ({ h with sack := fitSack bufLen h.sack,
                       closeReason := fitCr bufLen (fitSack bufLen h.sack) h.closeReason }, out.length) := by
  refine ⟨_, serialize_eq h bufLen hbuf, ?_⟩
  rw [List.append_assoc, deserialize_base h _ _ _ _ _ hwf
    (parseExts_exts (fitSack bufLen h.sack) (fitCr bufLen (fitSack bufLen h.sack) h.closeReason)
      (fun s hs => hwf.2.2.2.2.2.2.2.1 s (Option.filter_eq_some_iff.1 hs).1)
      (fun r hr => hwf.2.2.2.2.2.2.2.2 r (Option.filter_eq_some_iff.1 hr).1))]
  simp only [List.length_append, show (baseBytes h _).length = 20 from rfl]

/-- 36 = 20 + (2 + 8) + (2 + 4): both extensions fit -/
theorem fit_of_le (h : Header) {bufLen : Nat} (hbuf : 36 ≤ bufLen) :
    fitSack bufLen h.sack = h.sack ∧ fitCr bufLen h.sack h.closeReason = h.closeReason := by
  have all : ∀ {α : Type} {p : α → Bool} (o : Option α), (∀ a, p a = true) → o.filter p = o := fun o hp => by
    cases o with
    | none => rfl
    | some a => exact Option.filter_some_pos (hp a)
  have hl : (sackExt none h.sack).length ≤ 10 := by
    cases h.sack with
    | none => exact Nat.zero_le _
    | some s => exact Nat.add_le_add_right (sack_asBytes_length s) 2
  exact ⟨all _ fun s => decide_eq_true (by have := sack_asBytes_length s; omega), all _ fun _ => decide_eq_true (by omega)⟩

/-- **Lossless round trip**: serialising any well-formed header into a buffer with room (36 bytes
always suffice) and parsing it back yields the same header and the serialised length. -/
theorem roundtrip (h : Header) (bufLen : Nat) (hwf : HeaderWF h) (hbuf : 36 ≤ bufLen) :
    ∃ out, h.serialize bufLen = some out ∧ Header.deserialize out = some (h, out.length) := by
  have := serialize_parses h bufLen hwf (by omega)
  rwa [(fit_of_le h hbuf).1, (fit_of_le h hbuf).2] at this

theorem parseExts_wf (id : Nat) (buf : List Nat) (s : Option Sack) (c : Option Nat) (t : Nat)
    (hb : ∀ b ∈ buf, b < 256) (hs : ∀ x, s = some x → SackWF x) (hc : ∀ r, c = some r → r < 65536)
    (s' : Option Sack) (c' : Option Nat) (t' : Nat) (h : parseExts id buf s c t = some (s', c', t')) :
    (∀ x, s' = some x → SackWF x) ∧ (∀ r, c' = some r → r < 65536) := by
  fun_induction parseExts id buf s c t with
  | case1 buf s c t => cases h; exact ⟨hs, hc⟩
  | case2 id s c t hid next extLen rest hlen extData sack' cr' ih =>
    have hrest : ∀ b ∈ rest, b < 256 := fun b hb' => hb b (List.mem_cons_of_mem _ (List.mem_cons_of_mem _ hb'))
    have hdata : ∀ b ∈ extData, b < 256 := fun b hb' => hrest b (List.mem_of_mem_take hb')
    apply ih (fun b hb' => hrest b (List.mem_of_mem_drop hb')) ?_ ?_ h
    · intro x hx
      simp only [sack'] at hx
      split at hx
      · cases hx; exact sack_deserialize_wf _ hdata
      · exact hs x hx
    · intro r hr
      simp only [cr'] at hr
      split at hr
      · cases hr; exact closeReasonParse_lt _ hdata
      · exact hc r hr
  | case3 => cases h
  | case4 => cases h

theorem getD_lt_of_all {buf : List Nat} (hb : ∀ b ∈ buf, b < 256) (i : Nat) : buf.getD i 0 < 256 := by
  rw [List.getD_eq_getElem?_getD]
  cases hi : buf[i]? with
  | none => decide
  | some v => exact hb v (List.mem_of_getElem? hi)

theorem deserialize_wf (buf : List Nat) (hb : ∀ b ∈ buf, b < 256) (h : Header) (n : Nat)
    (hd : Header.deserialize buf = some (h, n)) : HeaderWF h := by
  obtain ⟨_, _, h4, sack, cr, tot, hp, _, rfl⟩ := (deserialize_eq_some_iff buf h n).1 hd
  have g := getD_lt_of_all hb
  have hwf := parseExts_wf _ _ none none 0 (fun b hb' => hb b (List.mem_of_mem_drop hb')) (by simp) (by simp) _ _ _ hp
  exact ⟨h4, be16_lt (g _) (g _), be16_lt (g _) (g _), be16_lt (g _) (g _), be32_lt (g _) (g _) (g _) (g _),
    be32_lt (g _) (g _) (g _) (g _), be32_lt (g _) (g _) (g _) (g _), hwf.1, hwf.2⟩

/-- Every header the parser returns is well-formed, so the round trip applies to it:
**parse → serialise → parse is the identity** on everything the parser accepts. -/
theorem parsed_header_roundtrip (buf : List Nat) (hb : ∀ b ∈ buf, b < 256) (h : Header) (n : Nat)
    (hd : Header.deserialize buf = some (h, n)) :
    ∃ out, h.serialize 1024 = some out ∧ Header.deserialize out = some (h, out.length) :=
  roundtrip h 1024 (deserialize_wf buf hb h n hd) (by omega)

/-- Short-buffer branch (covered separately): any buffer of at least 20 bytes gives a datagram that
still parses, to a header equal to the original except that extensions that did not fit are absent. -/
theorem serialize_short_buffer_parses (h : Header) (bufLen : Nat) (hwf : HeaderWF h) (hbuf : 20 ≤ bufLen)
    (hnosack : h.sack = none) (hnocr : h.closeReason = none) :
    h.serialize bufLen = some (baseBytes h 0) ∧ Header.deserialize (baseBytes h 0) = some (h, 20) := by
  constructor
  · rw [serialize_eq h bufLen hbuf, hnosack, hnocr]
    rfl
  · have hp : parseExts 0 [] none none 0 = some (h.sack, h.closeReason, 0) := by
      rw [hnosack, hnocr, parseExts_zero]
    have := deserialize_base h 0 [] _ _ 0 hwf hp
    rwa [List.append_nil] at this

/-- Too-small buffer is an error, never a panic or a truncated header. -/
theorem serialize_too_small (h : Header) (bufLen : Nat) (hbuf : bufLen < 20) : h.serialize bufLen = none := by
  unfold Header.serialize
  exact if_pos hbuf

-- Non-vacuity of `HeaderWF` and `Chain`: both extensions, a 2-byte SACK (not a multiple of 4); serialises to 30 bytes.
def exampleHeader : Header :=
  { htype := 2, connId := 7, ts := 1, tsDiff := 2, wnd := 3, seqNr := 65535, ackNr := 5
    sack := some (Sack.deserialize [255, 1]), closeReason := some 15 }
example : ∃ out, exampleHeader.serialize 64 = some out ∧ out.length = 30 := ⟨_, rfl, rfl⟩
example : HeaderWF exampleHeader := by
  refine ⟨by decide, by decide, by decide, by decide, by decide, by decide, by decide, ?_, ?_⟩
  · intro s hs; simp only [exampleHeader, Option.some.injEq] at hs; subst hs
    exact sack_deserialize_wf _ (by decide)
  · intro r hr; simp only [exampleHeader, Option.some.injEq] at hr; omega
example : Chain 1 [2, 1, 9, 0, 0] 5 :=
  Chain.ext 1 2 1 [9, 0, 0] 2 (by decide) (by decide) (Chain.ext 2 0 0 [] 0 (by decide) (by decide) (Chain.done _))

end UtpVerif.Props.C11
