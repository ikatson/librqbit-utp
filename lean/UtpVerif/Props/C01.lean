import UtpVerif.Model.VSock
import UtpVerif.Lemmas.Segments
import UtpVerif.Lemmas.Rx
import UtpVerif.Props.C19
import UtpVerif.Props.C04
/-!
# C01 — byte-stream integrity (data-plane invariants)

`written` is the ghost stream of every byte the application's `write` calls were told was accepted.
Sender: the ring is `written` minus the acknowledged prefix, the segment queue addresses a contiguous
range of it, and therefore **every ST_DATA ever put on the wire for a queued segment carries exactly
`written[offset_abs, offset_abs + size)`**, on every transmission, whatever the ring's internal wrap
position.  Receiver: a reassembly slot holds exactly the payload that was stored for its position and
slots reach the reader in position order.  The end-to-end statement (`read <+: written` for every
schedule and fault sequence) composes these with C04 (ack honesty), C09 (offset arithmetic) and the
network assumption "a delivered datagram was sent and is not staler than the tolerance"; the receiving
half of that composition is `Props/C01E2E`, where the sender's labelling enters as a hypothesis: there is
no two-endpoint product model (DESIGN §5 C01) — the lockstep correspondence and the position-coded
content oracle cover the glue.
-/
namespace UtpVerif.Props.C01
open UtpVerif.Model UtpVerif.Lemmas.Segments UtpVerif.Lemmas.Rx

/-- Sender-side coupling between the ring and the segment queue. -/
structure TxInv (written : List Nat) (ring : List Nat) (s : Segments) : Prop where
  sinv : SInv s
  ring_eq : ring = written.drop s.removedOffset
  covered : s.lenBytes ≤ ring.length

/-- **What goes on the wire is the stream**: for every segment `send_data!` can be handed (any view of
`iter_mut_for_sending`), the payload gathered from the ring — for every wrap position `k` of the ring
buffer — is exactly the `size` stream bytes at the segment's absolute offset, and never a `Bug*` error. -/
theorem wire_payload_is_stream_slice (written ring : List Nat) (s : Segments) (k : Nat) (start : Option Nat)
    (h : TxInv written ring s) :
    ∃ vs, s.iterForSending start = some vs ∧ ∀ v ∈ vs,
      TxRing.prepare2 (ring.take k) (ring.drop k) v.payloadOffset v.seg.payloadSize =
        .ok ((written.drop v.seg.offsetAbs).take v.seg.payloadSize) := by
  obtain ⟨vs, hv, hall⟩ := iterForSending_ok s start h.sinv
  refine ⟨vs, hv, fun v hvm => ?_⟩
  obtain ⟨-, -, -, hoff, hlen, -⟩ := hall v hvm
  rw [C19.prepare2_correct ring k _ _ (Nat.le_trans hlen h.covered), h.ring_eq, List.drop_drop, Nat.add_comm, hoff]

/-- Retransmissions carry the same bytes: the slice depends only on `(offset_abs, size)`, which no
operation changes for a queued segment (`Props/C06.content_stable_*`). -/
theorem same_key_same_bytes (written : List Nat) (g1 g2 : Segment)
    (h : (g1.offsetAbs, g1.payloadSize) = (g2.offsetAbs, g2.payloadSize)) :
    (written.drop g1.offsetAbs).take g1.payloadSize = (written.drop g2.offsetAbs).take g2.payloadSize := by
  simp only [Prod.mk.injEq] at h; rw [h.1, h.2]

/-- Whatever takes `n` bytes off the front of the queue and none onto its back keeps ring and queue in step once
the ring drops the same `n` bytes: acknowledgements (`n = acked_bytes`), probe pops and `discard_unsent` (`n = 0`). -/
theorem TxInv.shrink {written ring : List Nat} {s s' : Segments} (h : TxInv written ring s) (hS : SInv s') (n : Nat)
    (hro : s'.removedOffset = s.removedOffset + n) (hoff : s'.offset ≤ s.offset) :
    n ≤ ring.length ∧ TxInv written (ring.drop n) s' := by
  have := h.sinv.ending; have := hS.ending; have := h.covered
  exact ⟨by omega, hS, by rw [hro, h.ring_eq, List.drop_drop], by rw [List.length_drop]; omega⟩

/-- **Acknowledgement processing keeps ring and queue in step**: `remove_up_to_ack` reports
`acked_bytes`, the connection truncates exactly that many bytes from the front of the ring
(stream_dispatch.rs:1032-1048), and the coupling invariant is re-established — for any ACK header. -/
theorem ack_keeps_sender_in_step (written ring : List Nat) (s : Segments) (now ackNr : Nat) (sack : Option Sack)
    (h : TxInv written ring s) (hu : s.sndUna < 65536) :
    ∃ s' r, s.removeUpToAck now ackNr sack = some (s', r) ∧ r.ackedBytes ≤ ring.length ∧
      TxInv written (ring.drop r.ackedBytes) s' := by
  obtain ⟨s', r, k, h1, hk, _⟩ := removeUpToAck_ok s now ackNr sack h.sinv hu
  exact ⟨s', r, h1, h.shrink hk.inv _ hk.removedOffset (Nat.le_of_eq hk.offset)⟩

/-- **Segmentation keeps the coupling**: enqueueing `payload ≤ ring bytes not yet segmented`. -/
theorem enqueue_keeps_sender_in_step (written ring : List Nat) (s : Segments) (payload : Nat) (probe : Bool)
    (h : TxInv written ring s) (hfit : s.lenBytes + payload ≤ ring.length) :
    TxInv written ring (s.enqueue payload probe) :=
  ⟨enqueue_inv s payload probe h.sinv, h.ring_eq, by simp only [Segments.enqueue]; exact hfit⟩

/-- New bytes accepted by `write` append to both the ghost stream and the ring. -/
theorem write_keeps_sender_in_step (written ring : List Nat) (s : Segments) (more : List Nat)
    (h : TxInv written ring s) (hr : s.removedOffset ≤ written.length) :
    TxInv (written ++ more) (ring ++ more) s :=
  ⟨h.sinv, by rw [h.ring_eq, List.drop_append_of_le_length hr], by simp only [List.length_append]; have := h.covered; omega⟩

/-- Popping an unacknowledged probe (EMSGSIZE or expiry) keeps the coupling: its bytes simply become
unsegmented again (this is the accounting the D1 fix restored). -/
theorem probe_pop_keeps_sender_in_step (written ring : List Nat) (s : Segments) (q : Nat) (h : TxInv written ring s) :
    ∃ s' b, s.popMtuProbe q = some (s', b) ∧ TxInv written ring s' := by
  obtain ⟨s', b, h1, hinv, hf, ht⟩ := popMtuProbe_ok s q h.sinv
  refine ⟨s', b, h1, ?_⟩
  cases b with
  | false => rw [hf rfl]; exact h
  | true => obtain ⟨_, _, _, _, rfl⟩ := ht rfl; exact (h.shrink hinv 0 rfl (Nat.sub_le ..)).2

/-- **Receiver: a slot holds exactly what was stored for its position**; storing touches no other slot. -/
theorem store_sets_only_its_slot (q : Ooq) (eff : Nat) (msg : OoqMsg) (heff : eff < q.data.length) :
    (q.store eff msg).1.data[eff]? = some msg ∧ ∀ j, j ≠ eff → (q.store eff msg).1.data[j]? = q.data[j]? := by
  rw [store_data]
  exact ⟨List.getElem?_set_self heff, fun j hj => List.getElem?_set_ne (Ne.symm hj)⟩

/-- **Receiver: slots reach the reader in position order, unaltered**: `flush` only appends to the
reader's queue, and what it appends is the sequence of front slots (C04
`acked_data_only_leaves_to_reader`, `flush_ok`). Duplicates never overwrite: an occupied slot is
reported `AlreadyPresent` and left as is. -/
theorem duplicate_never_overwrites (q : Ooq) (ty : Nat) (payload : List Nat) (off : Nat) (slot : OoqMsg)
    (hs : q.data[off + q.filledFront]? = some slot) (hocc : slot.isDefault = false)
    (hnf : q.isFull = false) (hty : ty = Gen.TYPE_ST_DATA) (hp : payload ≠ []) :
    q.addRemove ty payload off = (q, .alreadyPresent) := by
  have hlt : off + q.filledFront < q.data.length := (List.getElem?_eq_some_iff.mp hs).1
  have hge : ¬ (off + q.filledFront ≥ q.data.length) := by omega
  have hpe : payload.isEmpty = false := by cases payload <;> simp_all
  unfold Ooq.addRemove Ooq.classify
  simp [hnf, hge, hty, hpe, hs, hocc]

end UtpVerif.Props.C01
