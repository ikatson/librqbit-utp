import UtpVerif.Lemmas.VSock
import UtpVerif.Gen.Fns
/-!
# C07 — acknowledgement timeliness: delayed-ACK bound and immediate-ACK triggers

`maybeSendAck` is `maybe_send_ack` (stream_dispatch.rs:679-703); `nextTimerToPoll` is
`next_timer_to_poll` (:1432); the forcing sites are in `processIncomingMessage`.
-/
namespace UtpVerif.Props.C07
open UtpVerif.Model UtpVerif.Model.VSock UtpVerif.Gen UtpVerif.Lemmas.VSock

/-- The numbers in the property text are the crate's (regenerated) constants. -/
theorem constants_pinned : ACK_DELAY = 40 * 1000000 ∧ IMMEDIATE_ACK_EVERY_RMSS = 2 := by decide

/-- `send_ack` on a writable transport puts exactly one ST_STATE datagram on the wire carrying
`ack_nr = last consumed`, and clears the unacknowledged counter and the delayed-ACK timer. -/
theorem sendAck_sends (v : VSock) (c : Ctx) (hp : v.transportPending = false)
    (ho : c.transport.outcome c.sends (({ v.outgoingHeader with sack := v.rx.ooq.selectiveAck } : Header).serialize (v.ss.maxSs + UTP_HEADER)).get!.length = .sent)
    (hser : (({ v.outgoingHeader with sack := v.rx.ooq.selectiveAck } : Header).serialize (v.ss.maxSs + UTP_HEADER)).isSome) :
    ∃ v' c' bytes, v.sendAck c = .ok (v', c', true) ∧ c'.out = c.out ++ [bytes] ∧
      v'.consumedButUnackedBytes = 0 ∧ v'.timers.ackDelay = none ∧ v'.lastSentAckNr = v.lastConsumedRemoteSeqNr := by
  unfold sendAck sendControlPacket
  simp only [hp, Bool.false_eq_true, if_false]
  cases hs : ({ v.outgoingHeader with sack := v.rx.ooq.selectiveAck } : Header).serialize (v.ss.maxSs + UTP_HEADER) with
  | none => rw [hs] at hser; simp at hser
  | some bytes =>
    rw [hs] at ho
    simp only [Option.get!_some] at ho
    simp only [transportSend, ho]
    exact ⟨_, _, bytes, rfl, rfl, rfl, rfl, rfl⟩

/-- **The ACK decision** (transport writable, no error): after `maybe_send_ack`
* if the unacknowledged bytes had reached twice the segment size (this includes every forced case:
  duplicate, out-of-order, gap fill, FIN set the counter to `usize::MAX`), or the window flipped
  to/from zero, or the delayed-ACK timer had expired with something to acknowledge — `send_ack` ran;
* otherwise, if any consumed byte is unacknowledged, the delayed-ACK timer is armed with a deadline
  no later than `now + 40 ms` (and no later than it was: `restart = false`);
* otherwise nothing is sent and no timer is armed. -/
theorem maybeSendAck_decision (v : VSock) (c : Ctx) :
    (v.immediateAckToTransmit = true → v.maybeSendAck c = v.sendAck c) ∧
    (v.immediateAckToTransmit = false → v.shouldSendWindowUpdate = true → v.maybeSendAck c = v.sendAck c) ∧
    (v.immediateAckToTransmit = false → v.shouldSendWindowUpdate = false →
      Timer.expired v.timers.ackDelay v.pollNow = true → v.ackToTransmit = true → v.maybeSendAck c = v.sendAck c) ∧
    (v.immediateAckToTransmit = false → v.shouldSendWindowUpdate = false →
      Timer.expired v.timers.ackDelay v.pollNow = false → v.consumedButUnackedBytes > 0 →
      ∃ v', v.maybeSendAck c = .ok (v', c, false) ∧
        ∃ d, v'.timers.ackDelay = some d ∧ d ≤ v.pollNow + 40000000 ∧ (∀ e, v.timers.ackDelay = some e → d ≤ e)) ∧
    (v.immediateAckToTransmit = false → v.shouldSendWindowUpdate = false →
      Timer.expired v.timers.ackDelay v.pollNow = false → v.consumedButUnackedBytes = 0 →
      v.maybeSendAck c = .ok (v, c, false)) := by
  have hA : ACK_DELAY = 40000000 := constants_pinned.1
  unfold maybeSendAck
  refine ⟨fun h => by simp [h], fun h1 h2 => by simp [h1, h2], fun h1 h2 h3 h4 => by simp [h1, h2, h3, h4], ?_, ?_⟩
  · intro h1 h2 h3 h4
    simp only [h1, h2, h3, Bool.false_eq_true, if_false, h4, if_true, pure, Except.pure]
    exact ⟨_, rfl, hA ▸ arm_keep _ _ _⟩
  · intro h1 h2 h3 h4
    have : ¬ (v.consumedButUnackedBytes > 0) := by omega
    simp [h1, h2, h3, this, pure, Except.pure]

theorem immediateAckToTransmit_iff (v : VSock) :
    v.immediateAckToTransmit = true ↔ 2 * v.ss.mss ≤ v.consumedButUnackedBytes := by
  unfold immediateAckToTransmit
  rw [constants_pinned.2, decide_eq_true_iff]

/-- **Immediate-ACK triggers set the counter above every threshold**: a forced ACK
(`force_immediate_ack`) makes `immediate_ack_to_transmit` true whatever the segment size. -/
theorem forced_ack_is_immediate (v : VSock) (hm : IMMEDIATE_ACK_EVERY_RMSS * v.ss.mss ≤ U64MAX) :
    v.forceImmediateAck.immediateAckToTransmit = true :=
  (immediateAckToTransmit_iff _).2 (constants_pinned.2 ▸ hm)

/-- Threshold: two segments' worth of unacknowledged bytes make the ACK immediate. -/
theorem two_segments_are_immediate (v : VSock) (h : 2 * v.ss.mss ≤ v.consumedButUnackedBytes) :
    v.immediateAckToTransmit = true :=
  (immediateAckToTransmit_iff v).2 h

/-- **The re-poll request covers the delayed ACK**: when the transport is writable the time handed to
the runtime by `next_timer_to_poll` is no later than the delayed-ACK deadline (nor any other armed
protocol timer). -/
theorem nextTimer_covers_ack_delay (v : VSock) (hp : v.transportPending = false) (d : Nat)
    (hd : v.timers.ackDelay = some d) : ∃ t, v.nextTimerToPoll.2 = some t ∧ t ≤ d :=
  nextTimerToPoll_le v hp d (by simp [hd])

/-- Silence: an established endpoint with nothing unacknowledged, no window flip and no expired
delayed-ACK timer sends no ACK. -/
theorem nothing_to_ack_is_silent (v : VSock) (c : Ctx) (h0 : v.consumedButUnackedBytes = 0)
    (hm : 1 ≤ v.ss.mss) (hw : v.shouldSendWindowUpdate = false)
    (ht : Timer.expired v.timers.ackDelay v.pollNow = false) : v.maybeSendAck c = .ok (v, c, false) := by
  have hi : v.immediateAckToTransmit = false :=
    eq_false_of_ne_true fun hi => by have := (immediateAckToTransmit_iff v).1 hi; omega
  exact (maybeSendAck_decision v c).2.2.2.2 hi hw ht h0

/-! ### Tie 1b: the hand-written model of this function equals the definition regenerated from the Rust source

`UtpVerif.Gen.Fns` is rewritten by `tools/translate_fns.py` from /repo's current source on every run; the theorems
of this file are about the model definition, and the equality below re-attaches them to what the code says now. -/

theorem generated_immediate_ack (v : VSock) :
    UtpVerif.Gen.Fns.immediateAckToTransmit v.consumedButUnackedBytes v.ss.mss ↔ v.immediateAckToTransmit = true := by
  unfold UtpVerif.Gen.Fns.immediateAckToTransmit VSock.immediateAckToTransmit
  simp

/-- `rx_window()` (C04's advertised window, C07's window-update trigger). -/
theorem generated_rx_window (v : VSock) (hm : v.ss.mss < 4294967296) :
    UtpVerif.Gen.Fns.rxWindow v.rx.remainingRxWindow v.ss.mss = v.rxWindow := by
  unfold UtpVerif.Gen.Fns.rxWindow VSock.rxWindow
  simp only [Nat.mod_eq_of_lt hm]


end UtpVerif.Props.C07
