import UtpVerif.Lemmas.VSock
import UtpVerif.Props.C19
import UtpVerif.Lemmas.Rx
/-!
# C03 — honest completion: no silent truncation; success means acked; failures surface
-/
namespace UtpVerif.Props.C03
open UtpVerif.Model UtpVerif.Model.VSock UtpVerif.Model.TxRing UtpVerif.Model.Rx UtpVerif.Lemmas.VSock

/-- **`flush` succeeds only when the ring is empty.** -/
theorem flush_ok_means_ring_empty (t : TxRing) (t' : TxRing) (h : t.pollFlush = (t', .ok)) : t.ring = [] := by
  unfold pollFlush at h
  split at h
  · exact List.isEmpty_iff.mp ‹_›
  · split at h <;> cases h

/-- …and the ring holds every accepted byte that acknowledgement processing has not removed (C19), so
a successful flush means every byte written before it was acknowledged by the peer's stack:
for every history of writes / acknowledgement removals / growth, if `flush` now returns Ok then
(bytes accepted) = (bytes removed by acknowledgements). -/
theorem flush_ok_means_all_acked (initial maxSize : Nat) (ops : List C19.Op) (t' : TxRing)
    (h : (ops.foldl (C19.step maxSize) (TxRing.new initial, {})).1.pollFlush = (t', .ok)) :
    (ops.foldl (C19.step maxSize) (TxRing.new initial, {})).2.written.length =
      (ops.foldl (C19.step maxSize) (TxRing.new initial, {})).2.removed := by
  obtain ⟨h1, _, _, h4⟩ := C19.inv_reachable initial maxSize ops
  have := congrArg List.length (h1.symm.trans (flush_ok_means_ring_empty _ _ h))
  rw [List.length_drop, List.length_nil] at this
  omega

/-- `shutdown` only ever returns Ok when the ring is empty and the connection is gone; while it is
alive it keeps waiting (it becomes Ok / Err through the death path below). -/
theorem shutdown_ok_means_ring_empty (t t' : TxRing) (ws : List Wake) (h : t.pollShutdown = (t', .ok, ws)) :
    t.ring = [] ∧ t.vsockClosed = true := by
  unfold pollShutdown at h
  cases he : t.ring.isEmpty <;> cases hc : t.vsockClosed <;>
    simp only [he, hc, Bool.not_false, Bool.not_true, Bool.false_eq_true, if_true, if_false] at h
  · cases h
  · cases h
  · split at h <;> cases h
  · exact ⟨List.isEmpty_iff.mp he, rfl⟩

/-- **The death path** (`just_before_death`, also the tail of every error exit of `poll`): both
halves are marked closed, and a registered writer / reader waker fires (so a pending call is
re-polled and, by `closed_read_side_resolves` and `closed_write_side_resolves`, resolves). -/
theorem death_closes_and_wakes (v : VSock) (c : Ctx) (e : Option VErr) (hnc : v.rx.vsockClosed = false) :
    (v.justBeforeDeath c e).1.rx.vsockClosed = true ∧ (v.justBeforeDeath c e).1.tx.vsockClosed = true ∧
    (v.tx.writerWaker = true → Wake.writer ∈ (v.justBeforeDeath c e).2.wakes) ∧
    (v.rx.readerWaker = true → Wake.reader ∈ (v.justBeforeDeath c e).2.wakes) := by
  obtain ⟨hrx, htx, hw⟩ := justBeforeDeath_halves v c e
  rw [hrx, htx, hw]
  have hR : ∀ r : Rx, r.markVsockClosed.1.vsockClosed = true ∧
      (r.vsockClosed = false → r.readerWaker = true → Wake.reader ∈ r.markVsockClosed.2) := by
    intro r; unfold Rx.markVsockClosed
    cases h1 : r.vsockClosed <;> cases h2 : r.readerWaker <;> simp [h1]
  have hT : v.tx.markVsockClosed.1.vsockClosed = true ∧ (v.tx.writerWaker = true → Wake.writer ∈ v.tx.markVsockClosed.2) := by
    unfold TxRing.markVsockClosed
    cases h2 : v.tx.writerWaker <;> simp
  -- the wakes are `c.wakes ++ (queuing the error) ++ (closing the read half) ++ (closing the write half)`
  refine ⟨(hR _).1, hT.1, fun h => List.mem_append_right _ (hT.2 h), fun h => ?_⟩
  cases e with
  | none => exact List.mem_append_left _ (List.mem_append_right _ ((hR v.rx).2 hnc h))
  | some e =>
    -- queuing the error already fires the reader's waker
    have : Wake.reader ∈ (v.rx.enqueueError e.text).2 := by unfold Rx.enqueueError; simp [h]
    exact List.mem_append_left _ (List.mem_append_left _ (List.mem_append_right _ this))

theorem readLoop_take_grows (fuel : Nat) (r : Rx) (room : Nat) (out rest : List Nat) (hroom : 0 < room)
    (hne : ¬ rest.isEmpty = true) :
    out.length < (readLoop fuel r (room - min room rest.length) (out ++ rest.take (min room rest.length))).2.1.length := by
  have hl : 0 < rest.length := Nat.pos_of_ne_zero (mt List.isEmpty_iff_length_eq_zero.mpr hne)
  refine Nat.lt_of_lt_of_le ?_ (Lemmas.Rx.readLoop_out_le ..)
  rw [List.length_append, List.length_take]
  exact Nat.lt_add_of_pos_right (Nat.lt_min.mpr ⟨Nat.lt_min.mpr ⟨hroom, hl⟩, hl⟩)

theorem readLoop_current_copies (fuel : Nat) (r : Rx) (room : Nat) (out : List Nat) (p : List Nat) (off : Nat)
    (hcur : r.current = some (p, off)) (hoff : off < p.length) (hroom : 0 < room) :
    out.length < (readLoop (fuel + 1) r room out).2.1.length := by
  have hne : ¬ (p.drop off).isEmpty = true := by rw [List.isEmpty_iff_length_eq_zero, List.length_drop]; omega
  rw [readLoop, if_neg (Nat.ne_of_gt hroom)]
  simp only [hcur, hne]
  exact readLoop_take_grows _ _ _ _ _ hroom hne

theorem readLoop_closed (fuel : Nat) (r : Rx) (room : Nat) (out : List Nat) (hc : r.vsockClosed = true)
    (hroom : 0 < room) (hf : r.queue.length < fuel) :
    (readLoop fuel r room out).2.2 = .done → (readLoop fuel r room out).2.1 = out → (readLoop fuel r room out).1.isEof = true := by
  fun_induction readLoop fuel r room out   -- (arms: see `Lemmas.Rx.readLoop_frame`)
  case case1 => exact absurd hf (Nat.not_lt_zero _)
  case case2 => omega
  case case4 fuel r room out _ payload off _ rest hne n _ r' _ =>
    -- a partially read message yields at least one byte: `out` cannot come back unchanged
    exact fun _ hout => absurd (hout ▸ readLoop_take_grows fuel r' room out rest hroom hne) (Nat.lt_irrefl _)
  case case5 h => exact fun _ _ => h
  case case6 => exact fun _ _ => rfl
  case case7 fuel r room out _ _ _ q' p hq r' ih =>
    exact ih hc hroom (by rw [hq] at hf; exact Nat.lt_of_succ_lt_succ hf)
  case case10 h => exact absurd hc h
  all_goals exact fun h => nomatch h

/-- **After the connection is closed the reader never hangs**: `read` (into a non-empty buffer)
returns queued data, the queued error, end-of-stream, or "dispatcher dead" — never Pending. -/
theorem closed_read_side_resolves (r : Rx) (n : Nat) (hn : 0 < n) (hc : r.vsockClosed = true) :
    (r.pollRead n).2.1 ≠ .pending := by
  have key := readLoop_closed (2 * (r.queue.length + 2) + 1) r n [] hc hn (by omega)
  rw [Lemmas.Rx.pollRead_eq]
  intro hp
  obtain ⟨ho, he, hx⟩ := (Lemmas.Rx.readRes_eq_pending_iff _ _ _).1 hp
  rw [key hx ho] at he; cases he

/-- **After the connection is closed no write-side call is left pending**: `write` fails, `flush` and
`shutdown` return Ok on an empty ring and an error otherwise. -/
theorem closed_write_side_resolves (t : TxRing) (buf : List Nat) (hc : t.vsockClosed = true)
    (hy : ¬ t.writtenWithoutYield > Gen.YIELD_EVERY) :
    (t.pollWrite buf).2.1 = .errClosed ∧
    (t.pollFlush.2 = .ok ∨ t.pollFlush.2 = .errDied) ∧
    (t.pollShutdown.2.1 = .ok ∨ t.pollShutdown.2.1 = .errDied) := by
  refine ⟨?_, ?_, ?_⟩
  · unfold pollWrite; simp [hy, hc]
  · unfold pollFlush; by_cases he : t.ring.isEmpty = true <;> simp [he, hc]
  · unfold pollShutdown; by_cases he : t.ring.isEmpty = true <;> simp [he, hc]

/-- **End-of-stream is reported only after everything queued before it**: while a partially read
message or a queued payload precedes the EOF marker, `read` (non-empty buffer) never returns EOF
(it returns the data, or the error if one is queued right behind it). -/
theorem no_eof_before_data (r : Rx) (n : Nat) (hn : 0 < n) (heof : r.isEof = false)
    (hdata : (∃ p off, r.current = some (p, off) ∧ off < p.length) ∨
             (r.current = none ∧ ∃ p q, r.queue = .payload p :: q ∧ 0 < p.length)) :
    (r.pollRead n).2.1 ≠ .eof := by
  have key : 0 < (readLoop (2 * (r.queue.length + 2) + 1) r n []).2.1.length := by
    rcases hdata with ⟨p, off, hcur, hoff⟩ | ⟨hcur, p, q, hq, hp⟩
    · exact readLoop_current_copies _ r n [] p off hcur hoff hn
    · -- two turns of the loop: the first pops the payload and makes it the partially read message, the second copies from it
      rw [show 2 * (r.queue.length + 2) + 1 = 2 * r.queue.length + 3 + 1 + 1 by omega, readLoop, if_neg (Nat.ne_of_gt hn)]
      simp only [hcur, heof, Bool.false_eq_true, if_false, hq]
      exact readLoop_current_copies _ _ n [] p 0 rfl hp hn
  rw [Lemmas.Rx.pollRead_eq]
  intro he
  rw [((Lemmas.Rx.readRes_eq_eof_iff _ _ _).1 he).1] at key; cases key

end UtpVerif.Props.C03
