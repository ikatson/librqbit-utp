import UtpVerif.Model.VSock
import UtpVerif.Props.C14
/-!
# C18 — Nagle coalescing

`segmentLoop` is the `while remaining > 0 && remote_window_remaining > 0` loop of
`split_tx_queue_into_segments` (stream_dispatch.rs:890-923).  Segments are transmitted with exactly the
size they were enqueued with (the sender never re-segments except popped probes), so what is proved about
enqueued sizes is what the wire shows for first transmissions.
-/
namespace UtpVerif.Props.C18
open UtpVerif.Model UtpVerif.Model.VSock

/-- The segments a loop run appends, with the state of the queue at the moment of each enqueue:
`(payload, usable, queueWasEmpty, isProbe)` where `usable = min(next segment size, window remaining)`. -/
def trace : Nat → VSock → Nat → Nat → List (Nat × Nat × Bool × Bool)
  | 0, _, _, _ => []
  | fuel + 1, v, remaining, windowRemaining =>
    if ¬ (remaining > 0 ∧ windowRemaining > 0 ∧ v.segs.segs.length < Gen.MAX_TX_SEGMENTS) then [] else
    let (ss', ssz) := v.ss.nextSegmentSize
    let v := { v with ss := ss' }
    let maxPayload := min ssz windowRemaining
    let payload := min maxPayload remaining
    if v.opts.nagle ∧ payload ≠ maxPayload ∧ !v.segs.segs.isEmpty then [] else
    let probe := decide (payload > v.ss.mss)
    let entry := (payload, maxPayload, v.segs.segs.isEmpty, probe)
    let v := { v with segs := v.segs.enqueue payload probe }
    if probe then [entry]
    else entry :: trace fuel v (remaining - payload) (windowRemaining - payload)

/-- `trace` really is what `segmentLoop` enqueues: the queue afterwards is the queue before plus exactly
these segments, in order, with these sizes. -/
theorem segmentLoop_appends (fuel : Nat) (v : VSock) (remaining win : Nat) :
    (segmentLoop fuel v remaining win).1.segs.segs.map (·.payloadSize) =
      v.segs.segs.map (·.payloadSize) ++ (trace fuel v remaining win).map (·.1) := by
  induction fuel generalizing v remaining win with
  | zero => simp [segmentLoop, trace]
  | succ fuel ih =>
    unfold segmentLoop trace
    split
    · simp
    · dsimp only
      split
      · simp
      · split
        · simp [Segments.enqueue]
        · rw [ih]
          simp [Segments.enqueue]

/-- **Nagle on: no partial segment while earlier data is queued.** Every segment the loop creates is
either as large as it could be (`payload = min(segment size, peer window left)`: full, or limited by the
peer's window) or was created when no earlier segment was outstanding. -/
theorem nagle_no_partial_segment (fuel : Nat) (v : VSock) (remaining win : Nat) (hn : v.opts.nagle = true) :
    ∀ e ∈ trace fuel v remaining win, e.1 = e.2.1 ∨ e.2.2.1 = true := by
  have gate : ∀ {p m : Nat} {l : List Segment}, ¬ (v.opts.nagle = true ∧ p ≠ m ∧ (!l.isEmpty) = true) →
      p = m ∨ l.isEmpty = true :=
    fun hg => Decidable.or_iff_not_imp_left.mpr fun h1 => by simpa [hn, h1] using hg
  -- (arms of `trace` and `segmentLoop`: 1 out of fuel, 2 nothing left / no window / the cap, 3 Nagle holds a partial segment
  -- back, 4 a probe is enqueued and ends the loop, 5 an ordinary segment: go on)
  fun_induction trace fuel v remaining win
  case case4 hgate _ _ _ => exact List.forall_mem_singleton.mpr (gate hgate)
  case case5 hgate _ _ _ _ ih => exact List.forall_mem_cons.mpr ⟨gate hgate, ih hn @gate⟩
  all_goals exact fun _ h => nomatch h

/-- (`hgo : ¬¬…`: the shape in which `fun_induction` hands over the negated stop test of the loop) -/
theorem pass_sizes {ss ss' : SegSizes} {ssz rem win n : Nat} (hss : 1 ≤ ss.minSs ∧ ss.minSs ≤ ss.maxSs)
    (hnx : ss.nextSegmentSize = (ss', ssz)) (hgo : ¬¬(rem > 0 ∧ win > 0 ∧ n < Gen.MAX_TX_SEGMENTS)) :
    (1 ≤ ss'.minSs ∧ ss'.minSs ≤ ss'.maxSs) ∧ 0 < rem ∧ 1 ≤ min (min ssz win) rem ∧
      min (min ssz win) rem ≤ min ssz win ∧ min (min ssz win) rem ≤ rem ∧ min ssz win ≤ win := by
  obtain ⟨_, h1, h2, h3⟩ := C14.next_segment_size_bounds ss.maxSs ss ⟨hss.1, hss.2, Nat.le_refl _⟩
  simp only [hnx] at h1 h2 h3
  have ⟨hr, hw, _⟩ := Decidable.not_not.mp hgo
  exact ⟨h1 ▸ h2 ▸ hss, hr, Nat.le_min.mpr ⟨Nat.le_min.mpr ⟨by omega, hw⟩, hr⟩, Nat.min_le_left _ _, Nat.min_le_right _ _,
    Nat.min_le_right _ _⟩

/-- Every created segment is at least one byte (so the loop makes progress and terminates), fits the
peer's window that was left and the bytes that were left. Needs the segment-size invariant of C14
(`1 ≤ min_ss ≤ max_ss`). -/
theorem segment_sizes (fuel : Nat) (v : VSock) (remaining win : Nat)
    (hss : 1 ≤ v.ss.minSs ∧ v.ss.minSs ≤ v.ss.maxSs) :
    ∀ e ∈ trace fuel v remaining win, 1 ≤ e.1 ∧ e.1 ≤ e.2.1 ∧ e.1 ≤ remaining ∧ e.2.1 ≤ win := by
  fun_induction trace fuel v remaining win
  case case4 hgo _ _ hnx _ _ _ _ _ _ _ => exact List.forall_mem_singleton.mpr (pass_sizes hss hnx hgo).2.2
  case case5 hgo _ _ hnx _ _ _ _ _ _ _ _ ih =>
    obtain ⟨hss', _, hentry⟩ := pass_sizes hss hnx hgo
    refine List.forall_mem_cons.mpr ⟨hentry, fun e he => ?_⟩
    obtain ⟨h1, h2, h3, h4⟩ := ih hss' e he
    exact ⟨h1, h2, Nat.le_trans h3 (Nat.sub_le _ _), Nat.le_trans h4 (Nat.sub_le _ _)⟩
  all_goals exact fun _ h => nomatch h

/-- **Nagle off: nothing is held back** except by the peer's window, an outstanding MTU probe, the end of the
data, or the cap on the number of queued segments (D25): when the loop stops (with enough fuel) either everything
buffered was segmented, or the peer's window is used up, or the segment just created is an MTU probe, or the
queue holds `MAX_TX_SEGMENTS` segments. -/
theorem no_nagle_segments_everything (fuel : Nat) (v : VSock) (remaining win : Nat) (hn : v.opts.nagle = false)
    (hss : 1 ≤ v.ss.minSs ∧ v.ss.minSs ≤ v.ss.maxSs) (hf : remaining < fuel) :
    (segmentLoop fuel v remaining win).2 ≤ remaining ∧
    ((segmentLoop fuel v remaining win).2 = 0 ∨
     win ≤ remaining - (segmentLoop fuel v remaining win).2 ∨
     (∃ g, (segmentLoop fuel v remaining win).1.segs.segs.getLast? = some g ∧ g.isMtuProbe = true) ∨
     Gen.MAX_TX_SEGMENTS ≤ (segmentLoop fuel v remaining win).1.segs.segs.length) := by
  fun_induction segmentLoop fuel v remaining win
  case case1 => exact absurd hf (Nat.not_lt_zero _)
  case case2 hstop => simp only at hstop ⊢; omega
  case case3 hgate => exact nomatch hn.symm.trans hgate.1
  case case4 hprobe => exact ⟨Nat.sub_le _ _, .inr (.inr (.inl ⟨_, List.getLast?_concat, hprobe⟩))⟩
  case case5 hgo _ _ hnx _ _ _ payload _ _ v2 _ ih =>
    obtain ⟨hss', hrem, h1, hm, hr, hw⟩ := pass_sizes hss hnx hgo
    replace ih := ih hn hss' (Nat.lt_of_lt_of_le (Nat.sub_lt hrem h1) (Nat.le_of_lt_succ hf))
    generalize segmentLoop _ v2 _ _ = res at ih ⊢
    refine ⟨Nat.le_trans ih.1 (Nat.sub_le _ _), ih.2.imp id (Or.imp_left fun h => ?_)⟩
    -- (`omega` splits on each of the four truncated subtractions: dear)
    have := Nat.add_le_add_right (Nat.add_le_of_le_sub ih.1 h) payload
    rw [Nat.sub_add_cancel hr, Nat.add_right_comm, Nat.sub_add_cancel (Nat.le_trans hm hw)] at this
    exact Nat.le_sub_of_add_le this

-- Non-vacuity: with Nagle on, 628 buffered bytes behind nothing outstanding give one full 528-byte segment
-- and the 100-byte tail is held back; with Nagle off both go out.
def exampleSock (nagle : Bool) : VSock :=
  { state := .established, opts := { nagle := nagle }, socketCreated := 0, connIdSend := 1,
    lastRemoteTimestamp := 0, lastRemoteWindow := 100000, seqNr := 1, lastSentSeqNr := 0,
    lastConsumedRemoteSeqNr := 0, lastSentAckNr := 0, lastSentWindow := 0,
    rx := Rx.build 1000 528, tx := TxRing.new 1000, segs := Segments.new 1,
    ss := { minSs := 528, maxSs := 528, cooldownRemaining := 1, cooldownMax := 3 } }
example : (trace 700 (exampleSock true) 628 100000).map (·.1) = [528] := by decide
example : (trace 700 (exampleSock false) 628 100000).map (·.1) = [528, 100] := by decide
end UtpVerif.Props.C18