import UtpVerif.Lemmas.Rx
import UtpVerif.Props.C09
import UtpVerif.Model.Segments
/-!
# C01 (end to end) — what the application reads is a prefix of what was written

The receiving endpoint's reassembly (`Model/Rx.lean`: out-of-order queue, flush into the reader's queue, the
reader's `poll_read` with partially read messages) is composed here into ONE theorem over an adversarial
network and an arbitrary reader: the event list is arbitrary, so every data packet may arrive any number of
times, in any order, or never, interleaved in any way with flushes and reads of any size.

`pkt g` is the payload of the `g`-th data packet of the connection (ghost index = sequence number minus the
initial one; the 16-bit arithmetic that computes offsets from real sequence numbers is C09's subject). The
sender-side theorems (`C01.wire_payload_is_stream_slice`, `C06.content_stable_*`) say that packet `g` always
carries the same slice of the written stream and that slices are consecutive; `consecutive_slices` turns that
into the labelling hypothesis, so `read_is_prefix_of_written_slices` speaks about the written stream itself.

The step from real 16-bit sequence numbers to ghost indices is `offset_of_real_sequence_numbers` (with C09).
What is NOT covered here: FIN/EOF and error items (C17, C03) and the known finding D2 (a re-split probe breaks
the sender's labelling).
-/
namespace UtpVerif.Props.C01E2E
open UtpVerif.Model UtpVerif.Gen UtpVerif.Lemmas.Rx UtpVerif.Props.C09

/-- the stream the packets make up: packets `0 … n-1` one after the other -/
def concatUpTo (pkt : Nat → List Nat) : Nat → List Nat
  | 0 => []
  | n + 1 => concatUpTo pkt n ++ pkt n

def qBytes : List UserMsg → List Nat
  | [] => []
  | .payload b :: t => b ++ qBytes t
  | _ :: t => qBytes t

def curRest (r : Rx) : List Nat := match r.current with | some (p, off) => p.drop off | none => []

/-- every occupied slot holds the packet of its position (`base` = ghost index of slot 0) -/
def SlotsOk (pkt : Nat → List Nat) (base : Nat) (q : Ooq) : Prop :=
  ∀ (i : Nat) (m : OoqMsg), q.data[i]? = some m → m.isDefault = false → m = OoqMsg.payload (pkt (base + i))

/-- the reader-side state is consistent with the packet stream: slots hold their packets, and everything
handed towards the reader so far (already read ++ partially read message ++ queued messages) is exactly
packets `0 … base-1` in order -/
structure E2E (pkt : Nat → List Nat) (base : Nat) (out : List Nat) (r : Rx) : Prop where
  inv : OoqInv r.ooq
  slots : SlotsOk pkt base r.ooq
  handed : out ++ curRest r ++ qBytes r.queue = concatUpTo pkt base
  pure : ∀ m ∈ r.queue, ∃ b, m = UserMsg.payload b ∧ b ≠ []
  cur : ∀ p off, r.current = some (p, off) → off < p.length
  notEof : r.isEof = false

theorem qBytes_append (a : List UserMsg) (b : List Nat) : qBytes (a ++ [UserMsg.payload b]) = qBytes a ++ b := by
  induction a with
  | nil => simp [qBytes]
  | cons x xs ih => cases x <;> simp [qBytes, ih]

theorem handOver_content {pkt : Nat → List Nat} {base : Nat} {out : List Nat} {r : Rx} {m : OoqMsg}
    (h : E2E pkt base out r) (hff : 0 < r.ooq.filledFront) (hm : r.ooq.data.head? = some m) :
    E2E pkt (base + 1) out (handOver r m) := by
  obtain ⟨hnd, _, hinv⟩ := popFront_inv h.inv hff hm
  have hm0 : m = OoqMsg.payload (pkt base) := h.slots 0 m (by rw [← List.head?_eq_getElem?]; exact hm) hnd
  subst hm0
  refine ⟨hinv, ?_, ?_, ?_, h.cur, h.notEof⟩
  · intro i m' hi hd
    rcases popFront_slot hi with hi | rfl
    · rw [h.slots (i + 1) m' hi hd, Nat.add_assoc, Nat.add_comm 1]
    · cases hd
  · show out ++ curRest r ++ qBytes (r.queue ++ [UserMsg.payload (pkt base)]) = concatUpTo pkt base ++ pkt base
    rw [qBytes_append, ← h.handed]; simp only [List.append_assoc]
  · intro x hx
    rcases List.mem_append.mp hx with hx | hx
    · exact h.pure x hx
    · exact ⟨pkt base, List.mem_singleton.1 hx, by simpa [OoqMsg.isDefault] using hnd⟩

theorem flush_content {pkt : Nat → List Nat} {base : Nat} {out : List Nat} {r r' : Rx} {n : Nat} {ws : List Wake}
    (h : E2E pkt base out r) (hf : r.flush = some (r', n, ws)) :
    ∃ k, E2E pkt (base + k) out r' ∧ r'.ooq.filledFront + k = r.ooq.filledFront := by
  obtain ⟨r2, win, woken, ⟨k, hk, hk2⟩, rfl⟩ := flush_preserves
    (I := fun r2 _ => ∃ k, E2E pkt (base + k) out r2 ∧ r2.ooq.filledFront + k = r.ooq.filledFront)
    (fun r1 _ m ⟨k, hk, hk2⟩ hff hm _ _ _ =>
      ⟨k + 1, handOver_content hk hff hm, by show r1.ooq.filledFront - 1 + (k + 1) = _; omega⟩)
    -- (`E2E` is taken apart and put together again: the records of `flush_preserves` differ from `r`, `r2` in the wakers
    -- and the remembered window, which it does not read)
    hf ⟨0, ⟨h.inv, h.slots, h.handed, h.pure, h.cur, h.notEof⟩, rfl⟩
  exact ⟨k, ⟨hk.inv, hk.slots, hk.handed, hk.pure, hk.cur, hk.notEof⟩, hk2⟩

theorem store_content {pkt : Nat → List Nat} {base : Nat} {q : Ooq} {eff g : Nat}
    (hs : SlotsOk pkt base q) (hg : g = base + eff) :
    SlotsOk pkt base (q.store eff (OoqMsg.payload (pkt g))).1 := by
  intro i m hmi hmd
  rw [store_data, List.getElem?_set] at hmi
  split at hmi
  · split at hmi
    · cases hmi; subst hg; rename_i h _; rw [h]
    · cases hmi
  · exact hs i m hmi hmd

def seqsOf : AddRemove → Nat
  | .consumed s _ => s
  | _ => 0

/-- (`k`: `Rx.addRemove` flushes after a consuming arrival that fills the queue) -/
theorem arrive_content {pkt : Nat → List Nat} {base : Nat} {out : List Nat} {r r' : Rx} {g off : Nat} {res : AddRemove} {ws : List Wake}
    (h : E2E pkt base out r) (hg : g = base + r.ooq.filledFront + off)
    (ha : r.addRemove TYPE_ST_DATA (pkt g) off = some (r', res, ws)) :
    ∃ k, E2E pkt (base + k) out r' ∧ (base + k) + r'.ooq.filledFront = base + r.ooq.filledFront + seqsOf res := by
  -- (`seqsOf` is the `match` in the statement of `addRemove_front`)
  have hfront : (r.ooq.addRemove TYPE_ST_DATA (pkt g) off).1.filledFront =
      r.ooq.filledFront + seqsOf (r.ooq.addRemove TYPE_ST_DATA (pkt g) off).2 := addRemove_front ..
  have h1 : E2E pkt base out { r with ooq := (r.ooq.addRemove TYPE_ST_DATA (pkt g) off).1 } := by
    refine ⟨(addRemove_inv _ _ _ _ h.inv).1, ?_, h.handed, h.pure, h.cur, h.notEof⟩
    rcases addRemove_cases r.ooq TYPE_ST_DATA (pkt g) off with he | he
    · rw [he, if_pos rfl]; exact store_content h.slots (by omega)
    · rw [he]; exact h.slots
  have he := rx_addRemove_eq r TYPE_ST_DATA (pkt g) off
  generalize r.ooq.addRemove TYPE_ST_DATA (pkt g) off = a at hfront h1 he
  rcases he with he | he <;> rw [he] at ha
  · cases ha
    exact ⟨0, h1, by show base + 0 + a.1.filledFront = _; omega⟩
  · obtain ⟨⟨r2, n, ws2⟩, hf, hx⟩ := Option.map_eq_some_iff.1 ha
    cases hx
    obtain ⟨k, hk, hk2⟩ := flush_content h1 hf
    exact ⟨k, hk, by show base + k + r2.ooq.filledFront = _; simp only at hk2; omega⟩

/-- No hypothesis: EOF and error items carry no bytes, and the `.bug` exit changes nothing. -/
theorem readLoop_conserves (fuel : Nat) (r : Rx) (room : Nat) (acc : List Nat) :
    (Rx.readLoop fuel r room acc).2.1 ++ curRest (Rx.readLoop fuel r room acc).1 ++ qBytes (Rx.readLoop fuel r room acc).1.queue =
      acc ++ curRest r ++ qBytes r.queue := by
  fun_induction Rx.readLoop fuel r room acc with   -- (arms: see `Lemmas.Rx.readLoop_frame`)
  | case4 fuel r room acc _ payload off hcur rest _ n off' r' ih =>
    have h' : curRest r' = payload.drop off' := by
      by_cases hfull : off' = payload.length
      · simp only [curRest, r', if_pos hfull]; rw [hfull, List.drop_length]
      · simp only [curRest, r', if_neg hfull]
    have hr : curRest r = rest.take n ++ payload.drop off' := by
      simp only [curRest, hcur, off']; rw [← List.drop_drop]; exact (List.take_append_drop n rest).symm
    rw [ih, h', hr]
    simp only [List.append_assoc]; rfl
  | case7 fuel r room acc _ hcur _ q' p hq r' ih =>
    rw [ih, hq]; simp only [curRest, hcur, qBytes, List.append_nil, List.append_assoc]; rfl
  | case6 fuel r room acc _ hcur _ q' hq r' | case8 fuel r room acc _ hcur _ q' msg hq r' => rw [hq]; rfl
  | _ => rfl

theorem readLoop_data (fuel : Nat) (r : Rx) (room : Nat) (acc : List Nat)
    (hp : ∀ m ∈ r.queue, ∃ b, m = UserMsg.payload b ∧ b ≠ []) (hc : ∀ p off, r.current = some (p, off) → off < p.length)
    (he : r.isEof = false) :
    (∀ p off, (Rx.readLoop fuel r room acc).1.current = some (p, off) → off < p.length) ∧
    (Rx.readLoop fuel r room acc).1.isEof = false ∧
    ((Rx.readLoop fuel r room acc).2.2 = .done ∨ (Rx.readLoop fuel r room acc).2.2 = .deadDispatcher) := by
  fun_induction Rx.readLoop fuel r room acc with   -- (arms: see `Lemmas.Rx.readLoop_frame`)
  | case3 fuel r room acc _ payload off hcur rest hrest =>
    have := hc payload off hcur
    simp only [rest, List.isEmpty_iff, List.drop_eq_nil_iff] at hrest
    omega
  | case4 fuel r room acc _ payload off hcur rest hrest n off' r' ih =>
    refine ih hp (fun p' o' hco => ?_) he
    have := hc payload off hcur
    by_cases hfull : off' = payload.length
    · rw [show r'.current = none from if_pos hfull] at hco; cases hco
    · rw [show r'.current = some (payload, off') from if_neg hfull] at hco; cases hco
      simp only [off', n, rest, List.length_drop] at hfull ⊢; omega
  | case5 fuel r room acc _ _ heof => rw [he] at heof; cases heof
  | case7 fuel r room acc _ _ _ q' p hq r' ih =>
    obtain ⟨b, hb, hbne⟩ := hp _ (hq ▸ List.mem_cons_self ..)
    cases hb
    exact ih (fun x hx => hp x (hq ▸ List.mem_cons_of_mem _ hx))
      (fun p' o' hco => by cases hco; exact List.length_pos_iff.2 hbne) he
  | case6 fuel r room acc _ _ _ q' hq r' | case8 fuel r room acc _ _ _ q' msg hq r' =>
    obtain ⟨_, hb, _⟩ := hp _ (hq ▸ List.mem_cons_self ..)
    cases hb
  | case9 => exact ⟨hc, he, Or.inr rfl⟩
  | _ => exact ⟨hc, he, Or.inl rfl⟩

theorem pollRead_content {pkt : Nat → List Nat} {base : Nat} {out : List Nat} {r : Rx} (n : Nat)
    (h : E2E pkt base out r) :
    let res := r.pollRead n
    let got := match res.2.1 with | .data b => b | _ => []
    E2E pkt base (out ++ got) res.1 ∧ res.1.ooq = r.ooq := by
  have h1 := readLoop_conserves (2 * (r.queue.length + 2) + 1) r n []
  obtain ⟨⟨popped, hq, _⟩, _, h2, _⟩ := readLoop_frame (2 * (r.queue.length + 2) + 1) r n []
  obtain ⟨h4, h5, h6⟩ := readLoop_data (2 * (r.queue.length + 2) + 1) r n [] h.pure h.cur h.notEof
  rw [pollRead_eq]
  generalize Rx.readLoop (2 * (r.queue.length + 2) + 1) r n [] = rl at h1 hq h2 h4 h5 h6
  obtain ⟨r1, bytes, ex⟩ := rl
  simp only at h1 hq h2 h4 h5 h6 ⊢
  -- the loop ended `done` or `deadDispatcher`, so the bytes it copied are the bytes returned
  have hgot : (match readRes bytes ex r1.isEof with | .data b => b | _ => []) = bytes := by
    cases bytes <;> rcases h6 with rfl | rfl <;> simp [readRes, h5]
  rw [hgot]
  refine ⟨⟨h2 ▸ h.inv, h2 ▸ h.slots, ?_, fun m hm => h.pure m (hq ▸ List.mem_append_right _ hm), h4, h5⟩, h2⟩
  show out ++ bytes ++ curRest r1 ++ qBytes r1.queue = _
  rw [List.append_assoc, List.append_assoc, ← List.append_assoc bytes, h1, ← h.handed]
  simp only [List.nil_append, List.append_assoc]

/-- What can happen at the receiving endpoint. `arrive g` = the network delivers (a copy of) data packet `g`
now - any `g`, any number of times, in any order, or never: loss, duplication, reordering and delay are all
just choices of the event list. -/
inductive Ev where
  | arrive (g : Nat)
  | flush
  | read (n : Nat)

/-- receiver + the dispatcher's consumed-packet counter + everything the application has read so far -/
structure Sys where
  r : Rx
  lc : Nat
  out : List Nat

/-- one event; `none` = the model panics (excluded separately by C04/C10) -/
def Sys.step (pkt : Nat → List Nat) (s : Sys) : Ev → Option Sys
  | .arrive g =>
    if g < s.lc then some s          -- already consumed: the connection ignores it (offset < 0), only re-ACKs
    else match s.r.addRemove TYPE_ST_DATA (pkt g) (g - s.lc) with
      | none => none
      | some (r', res, _) => some { s with r := r', lc := s.lc + seqsOf res }
  | .flush =>
    match s.r.flush with
    | none => none
    | some (r', _, _) => some { s with r := r' }
  | .read n =>
    let res := s.r.pollRead n
    some { s with r := res.1, out := s.out ++ (match res.2.1 with | .data b => b | _ => []) }

def Sys.run (pkt : Nat → List Nat) (s : Sys) : List Ev → Option Sys
  | [] => some s
  | ev :: evs => (s.step pkt ev).bind (fun s' => Sys.run pkt s' evs)

/-- (`lc`, the packets consumed: those handed to the reader's queue, `base`, plus the contiguous front still parked) -/
def Good (pkt : Nat → List Nat) (s : Sys) : Prop := ∃ base, E2E pkt base s.out s.r ∧ s.lc = base + s.r.ooq.filledFront

theorem step_good {pkt : Nat → List Nat} {s s' : Sys} {ev : Ev} (h : Good pkt s) (hs : s.step pkt ev = some s') : Good pkt s' := by
  obtain ⟨base, hE, hlc⟩ := h
  cases ev with
  | arrive g =>
    simp only [Sys.step] at hs
    split at hs
    · cases hs; exact ⟨base, hE, hlc⟩
    · split at hs
      · cases hs
      · rename_i r' res ws ha
        cases hs
        obtain ⟨k, hk, hk2⟩ := arrive_content hE (by omega) ha
        exact ⟨base + k, hk, by show s.lc + seqsOf res = _; rw [hk2, hlc]⟩
  | flush =>
    simp only [Sys.step] at hs
    split at hs
    · cases hs
    · rename_i r' n ws hf
      cases hs
      obtain ⟨k, hk, hk2⟩ := flush_content hE hf
      exact ⟨base + k, hk, by show s.lc = base + k + r'.ooq.filledFront; omega⟩
  | read n =>
    cases hs
    obtain ⟨h1, h2⟩ := pollRead_content n hE
    exact ⟨base, h1, h2 ▸ hlc⟩

theorem run_good {pkt : Nat → List Nat} {s s' : Sys} {evs : List Ev} (h : Good pkt s) (hr : s.run pkt evs = some s') : Good pkt s' := by
  induction evs generalizing s with
  | nil => cases hr; exact h
  | cons ev evs ih =>
    obtain ⟨s1, hs, hr⟩ := Option.bind_eq_some_iff.1 hr
    exact ih (step_good h hs) hr

theorem concatUpTo_prefix (pkt : Nat → List Nat) (a b : Nat) (h : a ≤ b) : concatUpTo pkt a <+: concatUpTo pkt b := by
  induction h with
  | refl => exact List.prefix_refl _
  | step _ ih => exact ih.trans (List.prefix_append _ _)

/-- fresh receive side, as `UserRx::build` makes it -/
def Sys.init (maxRxBytes mss : Nat) : Sys := { r := Rx.build maxRxBytes mss, lc := 0, out := [] }

theorem init_good (pkt : Nat → List Nat) (maxRxBytes mss : Nat) : Good pkt (Sys.init maxRxBytes mss) := by
  refine ⟨0, ⟨(build_ooq maxRxBytes mss).1, ?_, rfl, ?_, ?_, rfl⟩, rfl⟩
  · intro i m hm hd; rw [(build_ooq maxRxBytes mss).2 m (List.mem_of_getElem? hm)] at hd; cases hd
  · intro _ hm; cases hm
  · intro _ _ hc; cases hc

/-- **End-to-end byte-stream integrity, receiving side**: let `pkt g` be the payload of the `g`-th data packet
of a connection. Whatever the network does (every data packet may arrive any number of times, in any order,
or never - the event list is arbitrary), whatever the reader's schedule and read sizes, and whenever flushes
happen: the bytes the application has read are, at every moment, a prefix of `pkt 0 ++ pkt 1 ++ pkt 2 ++ …` -
nothing lost in the middle, nothing duplicated, nothing reordered, for every buffer configuration. -/
theorem reader_gets_prefix_of_packet_stream (pkt : Nat → List Nat) (maxRxBytes mss : Nat) (evs : List Ev) (s' : Sys)
    (hr : (Sys.init maxRxBytes mss).run pkt evs = some s') :
    ∃ n, s'.out <+: concatUpTo pkt n := by
  obtain ⟨base, hE, _⟩ := run_good (init_good pkt maxRxBytes mss) hr
  exact ⟨base, by rw [← hE.handed, List.append_assoc]; exact List.prefix_append _ _⟩

/-- **… and with the sender's labelling** (C01 `wire_payload_is_stream_slice`, C06 content stability: packet `g`
always carries the same slice of the written stream, and consecutive packets carry consecutive slices): the bytes
read are a prefix of the bytes written. -/
theorem read_is_prefix_of_written (stream : List Nat) (pkt : Nat → List Nat)
    (hlab : ∀ n, concatUpTo pkt n <+: stream)
    (maxRxBytes mss : Nat) (evs : List Ev) (s' : Sys)
    (hr : (Sys.init maxRxBytes mss).run pkt evs = some s') : s'.out <+: stream := by
  obtain ⟨n, hn⟩ := reader_gets_prefix_of_packet_stream pkt maxRxBytes mss evs s' hr
  exact List.IsPrefix.trans hn (hlab n)

/-- Consecutive slices of a stream concatenate to a prefix of it: if packet `g` carries
`stream[off g, off (g+1))` (what the sender theorems say, with `off` the stream offsets of the segment
boundaries), the packets up to `n` make up exactly the first `off n` bytes. -/
theorem consecutive_slices (stream : List Nat) (pkt : Nat → List Nat) (off : Nat → Nat) (h0 : off 0 = 0)
    (hmono : ∀ g, off g ≤ off (g + 1))
    (hpkt : ∀ g, pkt g = (stream.drop (off g)).take (off (g + 1) - off g)) (n : Nat) :
    concatUpTo pkt n = stream.take (off n) := by
  induction n with
  | zero => simp [concatUpTo, h0]
  | succ n ih =>
    simp only [concatUpTo, ih, hpkt n]
    have := hmono n
    have h : off (n + 1) = off n + (off (n + 1) - off n) := by omega
    rw [h, List.take_add]
    congr 2
    omega

/-- **End to end, with the sender's labelling discharged**: packets are consecutive slices of the written
stream ⇒ whatever the network and the reader do, the bytes read are a prefix of the bytes written. -/
theorem read_is_prefix_of_written_slices (stream : List Nat) (pkt : Nat → List Nat) (off : Nat → Nat) (h0 : off 0 = 0)
    (hmono : ∀ g, off g ≤ off (g + 1))
    (hpkt : ∀ g, pkt g = (stream.drop (off g)).take (off (g + 1) - off g))
    (maxRxBytes mss : Nat) (evs : List Ev) (s' : Sys)
    (hr : (Sys.init maxRxBytes mss).run pkt evs = some s') : s'.out <+: stream :=
  read_is_prefix_of_written stream pkt
    (fun n => by rw [consecutive_slices stream pkt off h0 hmono hpkt n]; exact List.take_prefix _ _)
    maxRxBytes mss evs s' hr

/-- **From real 16-bit sequence numbers to ghost indices**: a data packet with ghost index `g` carries sequence
number `isn + 1 + g` (mod 2^16); the connection has consumed `lc` packets, so its `last_consumed_remote_seq_nr`
is `isn + lc` (mod 2^16). The offset the connection computes for the reassembly queue,
`seq_nr - (last_consumed + 1)`, is exactly `g - lc` whenever the two are within the tolerance of each other -
whatever the initial sequence number, wrap included. -/
theorem offset_of_real_sequence_numbers (isn g lc : Nat)
    (hd : ((g : Int) - lc).natAbs ≤ WRAP_TOLERANCE) :
    seqSub ((isn + 1 + g) % 65536) (wadd ((isn + lc) % 65536) 1) = (g : Int) - lc :=
  seqSub_eq_of_congr (Nat.mod_lt _ (by decide)) (wadd_lt _ _) hd (by unfold wadd; omega)

/-! ### Non-vacuity: reordered and duplicated arrivals, partial reads -/

example :
    let pkt : Nat → List Nat := fun g => [10 * g + 1, 10 * g + 2, 10 * g + 3]
    ((Sys.init 64 4).run pkt [.arrive 2, .arrive 1, .arrive 1, .read 5, .arrive 0, .arrive 2, .flush, .read 2, .read 100]).map (·.out)
      = some [1, 2, 3, 11, 12, 13, 21, 22, 23] := by
  decide +kernel

/-! ### Known finding D2: the labelling hypothesis is FALSE of the sender model (and of the code) after a probe re-split

Negation witness, by kernel evaluation of the sender model (`Model/Segments.lean`, tied to the code by the
differential) composed with the receiver system above: a probe that is popped on expiry is segmented again under
the same sequence number; if its first copy had been delivered (only the ACK was late), the reader's bytes are
no longer a prefix of the written stream. The deterministic replay on the real connection is
`corpus/vsock/known_d2_probe_resplit_after_delivery.ops`, re-run on every check. -/

def d2Stream : List Nat := List.range 9

/-- the bytes a segment view puts on the wire (C01 `wire_payload_is_stream_slice`, nothing acknowledged yet) -/
def d2Wire (v : SegView) : List Nat := (d2Stream.drop v.seg.offsetAbs).take v.seg.payloadSize

/-- sender: 9 bytes written, the first 5 go out as an MTU probe under sequence number 0 -/
def d2Sent : Segments := ((Segments.new 0).enqueue 5 true).onSent 0 10

/-- the probe's expiry (retransmission timer fired, `mtu_probe_max_retransmissions = 0`): it is popped and its
bytes are segmented again at the proven size 3 - under the SAME sequence number 0, the rest as number 1 -/
def d2Resplit : Segments :=
  match d2Sent.popExpiredMtuProbe true 0 with
  | some (s, _) => (s.enqueue 3 false).enqueue 2 false
  | none => d2Sent

def d2Views (s : Segments) : List (Nat × List Nat) := ((s.iterForSending none).getD []).map (fun v => (v.seqNr, d2Wire v))

/-- what the receiver gets when the FIRST copy of number 0 was delivered after all (only its ACK was late) and
number 1 arrives after the re-split -/
def d2Pkt : Nat → List Nat
  | 0 => ((d2Views d2Sent).lookup 0).getD []
  | 1 => ((d2Views d2Resplit).lookup 1).getD []
  | _ => []

theorem d2_resplit_breaks_the_labelling :
    d2Views d2Sent = [(0, [0, 1, 2, 3, 4])] ∧
    d2Views d2Resplit = [(0, [0, 1, 2]), (1, [3, 4])] ∧
    ((Sys.init 64 4).run d2Pkt [.arrive 0, .arrive 1, .flush, .read 100]).map (·.out) = some [0, 1, 2, 3, 4, 3, 4] ∧
    ¬ ([0, 1, 2, 3, 4, 3, 4] <+: d2Stream) := by
  decide +kernel

end UtpVerif.Props.C01E2E
