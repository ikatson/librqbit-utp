import UtpVerif.Model.Rtte
import UtpVerif.Gen.Fns
/-!
# C16 — retransmission-timeout estimator stays within bounds

All statements are over *every* sequence of RTT samples (any `Nat` of nanoseconds) and timeout
events.  `clamp` is `max MIN (min · MAX)` (`clamp_eq`), hence bounded and monotone; the RTO is `clamp` of
something after every event (`onRtoTimeout_rto`, `sample_eq`), and the estimates stay in the hull of the
samples seen (`Est`, one induction over the history, `foldl_history`).
-/
namespace UtpVerif.Props.C16
open UtpVerif.Model UtpVerif.Model.Rtte UtpVerif.Gen

inductive Ev where
  | sample (rtt : Nat)
  | timeout
deriving Repr

def step (s : Rtte) : Ev → Rtte
  | .sample r => s.sample r
  | .timeout => s.onRtoTimeout

def run (evs : List Ev) : Rtte := evs.foldl step Rtte.init

theorem run_snoc (evs : List Ev) (e : Ev) : run (evs ++ [e]) = step (run evs) e := by simp [run]

/-- The property text's numbers are the crate's numbers (regenerated constants). -/
theorem constants_pinned :
    RTTE_MIN_RTO = 200 * 1000000 ∧ RTTE_MAX_RTO = 60 * 1000000000 ∧
    CLOCK_GRANULARITY = 10 * 1000000 ∧ RTTE_K = 4 ∧ RTTE_MIN_RTO ≤ RTTE_MAX_RTO ∧
    RTTE_MIN_RTO ≤ RTTE_INITIAL_RTT ∧ RTTE_INITIAL_RTT ≤ RTTE_MAX_RTO := by decide

theorem min_rto_le_max_rto : RTTE_MIN_RTO ≤ RTTE_MAX_RTO := constants_pinned.2.2.2.2.1

/-- (needs `RTTE_MIN_RTO ≤ RTTE_MAX_RTO`, which Rust's `clamp` asserts) -/
theorem clamp_eq (x : Nat) : clamp x = max RTTE_MIN_RTO (min x RTTE_MAX_RTO) := by
  unfold clamp
  by_cases h1 : x < RTTE_MIN_RTO
  · rw [if_pos h1, Nat.max_eq_left (Nat.le_of_lt (Nat.lt_of_le_of_lt (Nat.min_le_left _ _) h1))]
  · by_cases h2 : x > RTTE_MAX_RTO
    · rw [if_neg h1, if_pos h2, Nat.min_eq_right (Nat.le_of_lt h2), Nat.max_eq_right min_rto_le_max_rto]
    · rw [if_neg h1, if_neg h2, Nat.min_eq_left (Nat.not_lt.mp h2), Nat.max_eq_right (Nat.not_lt.mp h1)]

theorem clamp_bounds (x : Nat) : RTTE_MIN_RTO ≤ clamp x ∧ clamp x ≤ RTTE_MAX_RTO := by
  rw [clamp_eq]
  exact ⟨Nat.le_max_left _ _, Nat.max_le.2 ⟨min_rto_le_max_rto, Nat.min_le_right _ _⟩⟩

theorem clamp_mono {a b : Nat} (h : a ≤ b) : clamp a ≤ clamp b := by
  rw [clamp_eq, clamp_eq]
  exact Nat.max_le.2 ⟨Nat.le_max_left _ _,
    Nat.le_trans (Nat.le_min.2 ⟨Nat.le_trans (Nat.min_le_left _ _) h, Nat.min_le_right _ _⟩) (Nat.le_max_right _ _)⟩

theorem onRtoTimeout_rto (s : Rtte) : s.onRtoTimeout.rto = clamp (s.rto * 2) := by cases s <;> rfl

theorem sample_eq (s : Rtte) (r : Nat) : ∃ srtt rttvar, s.sample r = .subsequent (calcRto srtt rttvar) srtt rttvar := by
  cases s <;> exact ⟨_, _, rfl⟩

/-- On a steady path: `(7r + r)/8 = r` and `|r − r| = 0`. -/
theorem sample_steady (rto r v : Nat) :
    (Rtte.subsequent rto r v).sample r = .subsequent (calcRto r (v * 3 / 4)) r (v * 3 / 4) := by
  have e : (r * 7 + r) / 8 = r := by omega
  simp [Rtte.sample, absDiff, e]

theorem calcRto_mono {a a' v v' : Nat} (ha : a ≤ a') (hv : v ≤ v') : calcRto a v ≤ calcRto a' v' :=
  clamp_mono (Nat.add_le_add ha
    (Nat.max_le.2 ⟨Nat.le_trans (Nat.mul_le_mul_right _ hv) (Nat.le_max_left _ _), Nat.le_max_right _ _⟩))

theorem clamp_le_calcRto (a v : Nat) : clamp a ≤ calcRto a v := clamp_mono (Nat.le_add_right _ _)

def InBounds (s : Rtte) : Prop := RTTE_MIN_RTO ≤ s.rto ∧ s.rto ≤ RTTE_MAX_RTO

theorem init_inBounds : InBounds Rtte.init := constants_pinned.2.2.2.2.2

theorem step_inBounds (s : Rtte) (e : Ev) : InBounds (step s e) := by
  have : ∃ x, (step s e).rto = clamp x := by
    cases e with
    | timeout => exact ⟨_, onRtoTimeout_rto s⟩
    | sample r =>
      obtain ⟨a, v, h⟩ := sample_eq s r
      exact ⟨_, congrArg Rtte.rto h⟩
  obtain ⟨x, h⟩ := this
  unfold InBounds
  rw [h]
  exact clamp_bounds x

/-- **RTO is always between 200 ms and 60 s**, after any sequence of samples and timeouts. -/
theorem rto_always_in_bounds (evs : List Ev) :
    200000000 ≤ (run evs).rto ∧ (run evs).rto ≤ 60000000000 :=
  List.foldlRecOn (motive := InBounds) evs step init_inBounds fun s _ e _ => step_inBounds s e

/-- **After each sample RTO = clamp(SRTT + max(4·RTTVAR, G))**. -/
theorem rto_after_sample (s : Rtte) (r : Nat) :
    ∃ srtt rttvar, s.sample r = .subsequent (clamp (srtt + max (rttvar * 4) 10000000)) srtt rttvar :=
  sample_eq s r

/-- First sample: SRTT = R, RTTVAR = R/2 (RFC 6298 2.2). -/
theorem first_sample (r : Nat) :
    Rtte.init.sample r = .subsequent (calcRto r (r / 2)) r (r / 2) := rfl

/-- Subsequent samples: RTTVAR ← 3/4·RTTVAR + 1/4·|SRTT − R|, SRTT ← (7·SRTT + R)/8 (RFC 6298 2.3). -/
theorem later_sample (rto srtt rttvar r : Nat) :
    (Rtte.subsequent rto srtt rttvar).sample r =
      .subsequent (calcRto ((srtt * 7 + r) / 8) (rttvar * 3 / 4 + absDiff srtt r / 4))
        ((srtt * 7 + r) / 8) (rttvar * 3 / 4 + absDiff srtt r / 4) := rfl

/-- **A timeout doubles the RTO up to the cap** (for in-bounds states, i.e. all reachable ones). -/
theorem timeout_doubles (s : Rtte) (h : InBounds s) :
    s.onRtoTimeout.rto = min (2 * s.rto) RTTE_MAX_RTO := by
  rw [onRtoTimeout_rto, clamp_eq, Nat.mul_comm]
  exact Nat.max_eq_right (Nat.le_min.2 ⟨Nat.le_trans h.1 (Nat.le_mul_of_pos_left _ (by decide)), Nat.le_trans h.1 h.2⟩)

/-- `n` consecutive timeouts with no intervening sample. -/
def timeouts : Nat → Rtte → Rtte
  | 0, s => s
  | n + 1, s => timeouts n s.onRtoTimeout

theorem min_mul_min (k a M : Nat) (hk : 0 < k) : min (k * min a M) M = min (k * a) M := by
  rcases Nat.le_total a M with h | h
  · rw [Nat.min_eq_left h]
  · have h1 : M ≤ k * M := Nat.le_mul_of_pos_left _ hk
    rw [Nat.min_eq_right h, Nat.min_eq_right h1, Nat.min_eq_right (Nat.le_trans h1 (Nat.mul_le_mul_left _ h))]

theorem timeouts_double (s : Rtte) (h : InBounds s) (n : Nat) :
    (timeouts n s).rto = min (2 ^ n * s.rto) RTTE_MAX_RTO := by
  induction n generalizing s with
  | zero => rw [Nat.pow_zero, Nat.one_mul, Nat.min_eq_left h.2]; rfl
  | succ n ih =>
    rw [timeouts, ih _ (show InBounds s.onRtoTimeout from step_inBounds s .timeout), timeout_doubles s h, min_mul_min _ _ _ (Nat.pow_pos (by omega)),
      Nat.pow_succ, Nat.mul_assoc]

/-- `sample` does not read the RTO, and a timeout changes nothing else: of every state, first sample or later. -/
theorem sample_after_timeouts (s : Rtte) (r n : Nat) : (timeouts n s).sample r = s.sample r := by
  induction n generalizing s with
  | zero => rfl
  | succ n ih => exact (ih _).trans (by cases s <;> rfl)

/-- **The next sample returns to the sample-derived value**: back-off leaves SRTT/RTTVAR untouched,
so `sample` after any number of timeouts gives exactly what it would have given without them. -/
theorem sample_forgets_backoff (s : Rtte) (r : Nat) :
    match s with
    | .initial _ => True
    | .subsequent _ _ _ => s.onRtoTimeout.sample r = s.sample r := by
  cases s with
  | initial _ => trivial
  | subsequent rto srtt rttvar => exact sample_after_timeouts (.subsequent rto srtt rttvar) r 1

theorem sample_forgets_backoff_n (rto srtt rttvar r n : Nat) :
    (timeouts n (.subsequent rto srtt rttvar)).sample r =
      (Rtte.subsequent rto srtt rttvar).sample r :=
  sample_after_timeouts _ r n

/-- Samples seen in an event list. -/
def samples : List Ev → List Nat
  | [] => []
  | .sample r :: t => r :: samples t
  | .timeout :: t => samples t

theorem samples_append (a b : List Ev) : samples (a ++ b) = samples a ++ samples b := by
  induction a with
  | nil => rfl
  | cons e t ih => cases e <;> simp [samples, ih]

theorem foldl_history {σ ι : Type} (f : σ → ι → σ) (P : List ι → σ → Prop)
    (hstep : ∀ pre s i, P pre s → P (pre ++ [i]) (f s i)) (l : List ι) :
    ∀ pre s, P pre s → P (pre ++ l) (l.foldl f s) := by
  induction l with
  | nil => intro pre s h; rwa [List.append_nil]
  | cons i t ih => intro pre s h; simpa using ih _ _ (hstep pre s i h)

/-- Invariant: before the first sample none has been seen; afterwards SRTT lies in every interval that holds the
samples `seen`, RTTVAR below its upper end. -/
def Est (seen : List Nat) : Rtte → Prop
  | .initial _ => seen = []
  | .subsequent _ srtt rttvar => ∀ lo hi, (∀ x ∈ seen, lo ≤ x ∧ x ≤ hi) → lo ≤ srtt ∧ srtt ≤ hi ∧ rttvar ≤ hi

theorem absDiff_le {a b hi : Nat} (ha : a ≤ hi) (hb : b ≤ hi) : absDiff a b ≤ hi := by
  unfold absDiff
  split
  · exact Nat.le_trans (Nat.sub_le _ _) ha
  · exact Nat.le_trans (Nat.sub_le _ _) hb

theorem update_within {lo hi srtt rttvar r : Nat} (hs : lo ≤ srtt ∧ srtt ≤ hi ∧ rttvar ≤ hi) (hr : lo ≤ r ∧ r ≤ hi) :
    lo ≤ (srtt * 7 + r) / 8 ∧ (srtt * 7 + r) / 8 ≤ hi ∧ rttvar * 3 / 4 + absDiff srtt r / 4 ≤ hi := by
  have := absDiff_le hs.2.1 hr.2
  generalize absDiff srtt r = d at this
  omega

theorem est_step (pre : List Ev) (s : Rtte) (e : Ev) (h : Est (samples pre) s) :
    Est (samples (pre ++ [e])) (step s e) := by
  rw [samples_append]
  cases e with
  | timeout => rw [show samples [Ev.timeout] = [] from rfl, List.append_nil]; cases s <;> exact h
  | sample r =>
    cases s with
    | initial rto =>
      intro lo hi hw
      have := hw r (List.mem_append_right _ (List.mem_singleton.2 rfl))
      omega
    | subsequent rto srtt rttvar =>
      intro lo hi hw
      exact update_within (h lo hi fun x hx => hw x (List.mem_append_left _ hx))
        (hw r (List.mem_append_right _ (List.mem_singleton.2 rfl)))

/-- **SRTT always lies between the smallest and largest sample seen, and RTTVAR never exceeds the largest**, after
every sequence of samples and timeouts. -/
theorem srtt_between_samples (evs : List Ev) : Est (samples evs) (run evs) :=
  foldl_history step (fun pre => Est (samples pre)) est_step evs [] Rtte.init rfl

-- Non-vacuity / sanity: a concrete history.
example : (run [.sample 50000000, .timeout, .timeout]).rto = 800000000 := by decide
example : (run [.sample 50000000, .timeout, .sample 50000000]).rto = 200000000 := by decide
example : (run [.sample 0]).rto = 200000000 ∧ (run [.sample 100000000000000]).rto = 60000000000 := by decide

/-- Invariant: SRTT and RTTVAR never exceed any upper bound of the samples seen. -/
def VarInv (seen : List Nat) : Rtte → Prop
  | .initial _ => True
  | .subsequent _ srtt rttvar => ∀ hi, (∀ x ∈ seen, x ≤ hi) → srtt ≤ hi ∧ rttvar ≤ hi

theorem var_bounded_by_samples (evs : List Ev) : VarInv (samples evs) (run evs) := by
  have h := srtt_between_samples evs
  cases hr : run evs with
  | initial _ => trivial
  | subsequent rto srtt rttvar =>
    rw [hr] at h
    exact fun hi hh => (h 0 hi fun x hx => ⟨Nat.zero_le _, hh x hx⟩).2

/-- **Right after a sample the RTO is bracketed by the samples seen**: for every history of samples and timeouts
ending in a sample, if every sample seen lies in `[lo, hi]` then
`clamp lo ≤ RTO ≤ clamp (hi + max (4·hi) G)`: never below the smallest round trip measured (a timer shorter than
the path's round trip would fire spuriously on every packet), never above five times the largest (plus the clamp
to [200 ms, 60 s]), whatever back-off happened in between. -/
theorem rto_bracketed_by_samples (evs : List Ev) (r lo hi : Nat)
    (hlo : ∀ x ∈ samples evs ++ [r], lo ≤ x) (hhi : ∀ x ∈ samples evs ++ [r], x ≤ hi) :
    clamp lo ≤ (run (evs ++ [.sample r])).rto ∧
    (run (evs ++ [.sample r])).rto ≤ clamp (hi + max (hi * RTTE_K) CLOCK_GRANULARITY) := by
  have he := srtt_between_samples (evs ++ [.sample r])
  obtain ⟨srtt, rttvar, hs⟩ := sample_eq (run evs) r
  rw [samples_append, run_snoc, step, hs] at he
  rw [run_snoc, step, hs]
  obtain ⟨h1, h2, h3⟩ := he lo hi fun x hx => ⟨hlo x hx, hhi x hx⟩
  exact ⟨Nat.le_trans (clamp_mono h1) (clamp_le_calcRto _ _), calcRto_mono h2 h3⟩

-- Non-vacuity: histories with back-off between the samples.
example : (run ([.sample 50000000, .timeout] ++ [.sample 70000000])).rto = 200000000 := by decide
example : (run ([.sample 1000000000, .timeout] ++ [.sample 3000000000])).rto = 4750000000 := by decide

/-- `n` further samples of the same value. -/
def steady (r : Nat) : Nat → Rtte → Rtte
  | 0, s => s
  | n + 1, s => steady r n (s.sample r)

/-- RTTVAR after `n` decays of 3/4 (integer floor, as the code computes it). -/
def decay : Nat → Nat → Nat
  | 0, v => v
  | n + 1, v => decay n (v * 3 / 4)

theorem decay_le (n v : Nat) : decay n v * 4 ^ n ≤ v * 3 ^ n := by
  induction n generalizing v with
  | zero => exact Nat.le_refl _
  | succ n ih =>
    rw [decay, Nat.pow_succ, Nat.pow_succ, ← Nat.mul_assoc, ← Nat.mul_assoc, Nat.mul_right_comm v]
    refine Nat.le_trans (Nat.mul_le_mul_right 4 (ih _)) ?_
    rw [Nat.mul_right_comm]
    exact Nat.mul_le_mul_right _ (Nat.div_mul_le_self _ _)

/-- **On a steady path the estimator settles**: after a first sample `r`, `n` further samples of the same `r`
(with any timeouts' back-off forgotten by `sample_forgets_backoff`) leave SRTT = `r` exactly, RTTVAR = `r/2` decayed
`n` times by 3/4 - at most `(r/2)·(3/4)^n` - and RTO = clamp(r + max(4·RTTVAR, G)): the timer comes back down to
the measured round trip instead of staying inflated. -/
theorem steady_path_settles (r n rto v : Nat) :
    steady r (n + 1) (.subsequent rto r v) =
      .subsequent (calcRto r (decay (n + 1) v)) r (decay (n + 1) v) ∧
    decay (n + 1) v * 4 ^ (n + 1) ≤ v * 3 ^ (n + 1) := by
  refine ⟨?_, decay_le _ _⟩
  induction n generalizing rto v with
  | zero => exact sample_steady rto r v
  | succ n ih => rw [steady, sample_steady]; exact ih _ _

-- Non-vacuity: 100 ms path, ten equal samples: the RTO is down at the 200 ms floor.
example : (steady 100000000 9 (Rtte.init.sample 100000000)).rto = 200000000 := by decide

/-! ### Tie 1b: the model functions equal the definitions regenerated from the Rust source on every run (DESIGN §2) -/

theorem generated_clamp (r : Nat) : UtpVerif.Gen.Fns.rtoClamp r = Rtte.clamp r := rfl
theorem generated_calc_rto (s v : Nat) : UtpVerif.Gen.Fns.calcRto s v = Rtte.calcRto s v := rfl
theorem generated_abs_diff (a b : Nat) : UtpVerif.Gen.Fns.durationAbsDiff a b = Rtte.absDiff a b := rfl
/-- The two assignments of `RttEstimator::sample` (Subsequent arm), as written in the source, are the model's step. -/
theorem generated_sample_update (rto srtt rttvar r : Nat) :
    Rtte.sample (.subsequent rto srtt rttvar) r =
      .subsequent (UtpVerif.Gen.Fns.calcRto (UtpVerif.Gen.Fns.srttUpdate srtt r) (UtpVerif.Gen.Fns.rttvarUpdate rttvar srtt r))
        (UtpVerif.Gen.Fns.srttUpdate srtt r) (UtpVerif.Gen.Fns.rttvarUpdate rttvar srtt r) := rfl

end UtpVerif.Props.C16
