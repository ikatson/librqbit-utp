import UtpVerif.Model.Segments
/-!
Invariant of the TX segment queue and its preservation.

The queue is the stream interval `[removed_offset, offset)` cut into segments (`SInv`). Every operation either moves
one end of that interval - `popFront` (acknowledgements), `SInv.giveBack` (probe pops, `discard_unsent`), `enqueue` -
or rewrites per-segment flags, which is stated once per operation for every projection `f` blind to the flags it
writes (`markSacked_map`, `pipeLoop_map`, `onSent_ok`). The two recursive loops of `remove_up_to_ack` are put in
closed form by one induction each (`drainFront_eq`, `cleanupFront_eq`); `removeUpToAck_closed` is the equation
everything about acknowledgement processing is read off. The never-sent tail is a `List.findIdx` from the back
(`tu_eq`). The last section restates each operation in the four terms the connection level reads (`SInv`, `snd_una`,
length, `trailingUnsent`): `removeUpToAck_queue`, `calcPipe_queue`, `onSent_queue`, `enqueue_queue`, `discardUnsent_ok`.
-/
namespace UtpVerif.Lemmas.Segments
open UtpVerif.Model UtpVerif.Model.Segments

def sizes (l : List Segment) : Nat := (l.map (·.payloadSize)).sum

/-- Offsets are contiguous starting at `start`. -/
def Contig : Nat → List Segment → Prop
  | _, [] => True
  | start, g :: rest => g.offsetAbs = start ∧ Contig (start + g.payloadSize) rest

/-- The byte-accounting invariant of `Segments`:
`len_bytes` is the sum of the queued payload sizes, the queued segments address the contiguous
stream range `[removed_offset, offset)`. -/
structure SInv (s : Segments) : Prop where
  bytes : s.lenBytes = sizes s.segs
  contig : Contig s.removedOffset s.segs
  ending : s.offset = s.removedOffset + s.lenBytes

/-- The "shape" of the queue that matters for content: byte range of every queued segment. -/
def shape (s : Segments) : List (Nat × Nat) := s.segs.map (fun g => (g.offsetAbs, g.payloadSize))

@[simp] theorem sizes_nil : sizes [] = 0 := rfl
@[simp] theorem sizes_cons (g : Segment) (l : List Segment) : sizes (g :: l) = g.payloadSize + sizes l := by
  simp [sizes]
@[simp] theorem sizes_append (a b : List Segment) : sizes (a ++ b) = sizes a + sizes b := by
  simp [sizes]

theorem sizes_take_drop (l : List Segment) (k : Nat) : sizes l = sizes (l.take k) + sizes (l.drop k) := by
  rw [← sizes_append, List.take_append_drop]

/-- Every fact below about a part of a contiguous queue (a prefix, a suffix, one segment) is this one. -/
theorem contig_append (start : Nat) (a b : List Segment) :
    Contig start (a ++ b) ↔ Contig start a ∧ Contig (start + sizes a) b := by
  induction a generalizing start with
  | nil => simp [Contig]
  | cons g t ih => simp [Contig, ih, and_assoc, Nat.add_assoc]

theorem contig_take_drop (start : Nat) (l : List Segment) (k : Nat) :
    Contig start l ↔ Contig start (l.take k) ∧ Contig (start + sizes (l.take k)) (l.drop k) := by
  rw [← contig_append, List.take_append_drop]

theorem contig_drop (start : Nat) (l : List Segment) (k : Nat) (h : Contig start l) :
    Contig (start + sizes (l.take k)) (l.drop k) :=
  ((contig_take_drop start l k).1 h).2

theorem contig_range (start : Nat) (l : List Segment) (h : Contig start l) (g : Segment) (hg : g ∈ l) :
    start ≤ g.offsetAbs ∧ g.offsetAbs + g.payloadSize ≤ start + sizes l := by
  obtain ⟨a, b, rfl⟩ := List.append_of_mem hg
  have := ((contig_append start a (g :: b)).1 h).2.1
  simp only [sizes_append, sizes_cons]
  omega

/-- what `shape` keeps of a segment: `shape s = s.segs.map key` -/
def key (g : Segment) : Nat × Nat := (g.offsetAbs, g.payloadSize)

theorem sizes_congr (l l' : List Segment) (h : l'.map key = l.map key) : sizes l' = sizes l := by
  have := congrArg (List.map Prod.snd) h
  simp only [List.map_map] at this
  exact congrArg List.sum this

theorem contig_congr (start : Nat) (l l' : List Segment) (h : l'.map key = l.map key) :
    Contig start l → Contig start l' := by
  induction l generalizing l' start with
  | nil => rw [List.map_eq_nil_iff.1 h]; exact id
  | cons a t ih =>
    obtain ⟨b, u, rfl, hb, hu⟩ := List.map_eq_cons_iff.1 h
    obtain ⟨h1, h2⟩ := Prod.mk.inj hb
    exact fun hc => ⟨h1 ▸ hc.1, h2 ▸ ih _ _ hu hc.2⟩

theorem length_eq_of_map_eq {α β : Type} {f : α → β} {l l' : List α} (h : l'.map f = l.map f) : l'.length = l.length := by
  rw [← List.length_map f, h, List.length_map]

theorem SInv.congr {s s' : Segments} (h : SInv s) (hk : s'.segs.map key = s.segs.map key)
    (h1 : s'.lenBytes = s.lenBytes) (h2 : s'.removedOffset = s.removedOffset) (h3 : s'.offset = s.offset) : SInv s' :=
  ⟨by rw [h1, h.bytes, sizes_congr _ _ hk], by rw [h2]; exact contig_congr _ _ _ hk h.contig, by rw [h1, h2, h3]; exact h.ending⟩

theorem new_inv (u : Nat) : SInv (Segments.new u) := ⟨rfl, trivial, rfl⟩

theorem enqueue_inv (s : Segments) (len : Nat) (probe : Bool) (h : SInv s) : SInv (s.enqueue len probe) := by
  have hb := h.bytes; have he := h.ending
  refine ⟨?_, (contig_append _ _ _).2 ⟨h.contig, ?_, trivial⟩, ?_⟩
  · show s.lenBytes + len = sizes (s.segs ++ [_]); rw [sizes_append, sizes_cons, sizes_nil, hb]; rfl
  · show s.offset = s.removedOffset + sizes s.segs; rw [he, hb]
  · show s.offset + len = s.removedOffset + (s.lenBytes + len); rw [he, Nat.add_assoc]

/-- What both probe pops (`n = len - 1`) and `discard_unsent` (`n = len - trailingUnsent`) do. -/
theorem SInv.giveBack {s : Segments} (h : SInv s) (n : Nat) :
    sizes (s.segs.drop n) ≤ s.lenBytes ∧ sizes (s.segs.drop n) ≤ s.offset ∧
    SInv { s with segs := s.segs.take n, offset := s.offset - sizes (s.segs.drop n),
                  lenBytes := s.lenBytes - sizes (s.segs.drop n) } := by
  obtain ⟨hb, hc, he⟩ := h
  rw [sizes_take_drop s.segs n] at hb
  exact ⟨by omega, by omega, by simp only; omega, ((contig_take_drop _ _ n).1 hc).1, by simp only; omega⟩

theorem SInv.popLast {s : Segments} (h : SInv s) {last : Segment} (hl : s.segs.getLast? = some last) :
    ¬ (s.offset < last.payloadSize ∨ s.lenBytes < last.payloadSize) ∧
    SInv { s with segs := s.segs.dropLast, offset := s.offset - last.payloadSize,
                  lenBytes := s.lenBytes - last.payloadSize } := by
  obtain ⟨init, hi⟩ := List.getLast?_eq_some_iff.1 hl
  have := h.giveBack init.length
  rw [hi, List.take_left, List.drop_left, sizes_cons, sizes_nil] at this
  rw [hi, List.dropLast_concat]
  exact ⟨by omega, this.2.2⟩

/-- **`pop_mtu_probe` never panics, keeps the accounting, and either leaves the queue untouched or
removes exactly the last segment, giving its bytes back.** -/
theorem popMtuProbe_ok (s : Segments) (seq : Nat) (h : SInv s) :
    ∃ s' b, s.popMtuProbe seq = some (s', b) ∧ SInv s' ∧ (b = false → s' = s) ∧
      (b = true → ∃ last, s.segs.getLast? = some last ∧ last.isMtuProbe = true ∧ last.isDelivered = false ∧
         s' = { s with segs := s.segs.dropLast, offset := s.offset - last.payloadSize,
                       lenBytes := s.lenBytes - last.payloadSize }) := by
  unfold Segments.popMtuProbe
  cases hl : s.segs.getLast? with
  | none => exact ⟨s, false, rfl, h, fun _ => rfl, nofun⟩
  | some last =>
    obtain ⟨hne, hinv⟩ := h.popLast hl
    simp only [hne, if_false]
    split
    · rename_i hc
      exact ⟨_, true, rfl, hinv, nofun, fun _ => ⟨last, rfl, by simpa using hc.2.1, by simpa using hc.2.2, rfl⟩⟩
    · exact ⟨s, false, rfl, h, fun _ => rfl, nofun⟩

theorem popExpiredMtuProbe_ok (s : Segments) (timedOut : Bool) (maxRetx : Nat) (h : SInv s) :
    ∃ s' r, s.popExpiredMtuProbe timedOut maxRetx = some (s', r) ∧ SInv s' ∧
      ((∀ to ps, r ≠ .expired to ps) → s' = s) ∧
      (∀ to ps, r = .expired to ps → timedOut = true ∧ ∃ last, s.segs.getLast? = some last ∧
         last.isMtuProbe = true ∧ last.isDelivered = false ∧ maxRetx ≤ last.retransmitCount ∧ ps = last.payloadSize ∧
         s' = { s with segs := s.segs.dropLast, offset := s.offset - last.payloadSize,
                       lenBytes := s.lenBytes - last.payloadSize }) := by
  unfold Segments.popExpiredMtuProbe
  cases hl : s.segs.getLast? with
  | none => exact ⟨s, .empty, rfl, h, fun _ => rfl, nofun⟩
  | some last =>
    obtain ⟨hne, hinv⟩ := h.popLast hl
    simp only [hne, if_false]
    split
    · exact ⟨s, .empty, rfl, h, fun _ => rfl, nofun⟩
    · rename_i hnd
      split
      · rename_i hc
        refine ⟨_, _, rfl, hinv, fun hx => absurd rfl (hx _ _), fun to ps he => ?_⟩
        exact ⟨by simpa using hc.1, last, rfl, by simpa using hc.2.1, by simpa using hnd, hc.2.2,
          (PopExpired.expired.inj he).2.symm, rfl⟩
      · split
        · exact ⟨s, .notExpired, rfl, h, fun _ => rfl, nofun⟩
        · exact ⟨s, .empty, rfl, h, fun _ => rfl, nofun⟩

/-- `wadd u k`, by `rfl`: `remove_up_to_ack` counts `snd_una` up one by one where the connection adds. -/
def advance (u k : Nat) : Nat := (u + k) % 65536

/-- The queue with its first `k` segments popped by the acknowledgement loops
(`removed_offset` is advanced only at the end of `remove_up_to_ack`). -/
def popFront (k : Nat) (s : Segments) : Segments :=
  { s with segs := s.segs.drop k, sndUna := advance s.sndUna k, lenBytes := s.lenBytes - sizes (s.segs.take k) }

/-- What the cumulative drain accumulates over the segments `l` it removes. -/
def drained (now : Nat) (a : AckAcc) (l : List Segment) : AckAcc :=
  l.foldl (fun a seg => { a with removed := a.removed + 1, payloadSize := a.payloadSize + seg.payloadSize,
                                 maxAcked := max a.maxAcked seg.payloadSize, newRtt := seg.updateRtt now a.newRtt }) a

theorem drained_spec (now : Nat) (a : AckAcc) (l : List Segment) :
    (drained now a l).removed = a.removed + l.length ∧ (drained now a l).payloadSize = a.payloadSize + sizes l := by
  induction l generalizing a with
  | nil => exact ⟨rfl, rfl⟩
  | cons g t ih => simp only [drained, List.foldl_cons] at ih ⊢; simp only [ih, List.length_cons, sizes_cons]; omega

theorem popFront_zero (s : Segments) (hu : s.sndUna < 65536) : popFront 0 s = s := by
  simp [popFront, advance, Nat.mod_eq_of_lt hu]

theorem popFront_succ (k : Nat) (s : Segments) (seg : Segment) (rest : List Segment) (hs : s.segs = seg :: rest) :
    popFront k { s with segs := rest, sndUna := wadd s.sndUna 1, lenBytes := s.lenBytes - seg.payloadSize } =
      popFront (k + 1) s := by
  simp only [popFront, hs, List.drop_succ_cons, List.take_succ_cons, sizes_cons, advance, wadd, Nat.sub_sub,
    Nat.mod_add_mod, Nat.add_assoc, Nat.add_comm 1]

theorem drainFront_eq (now n : Nat) (s : Segments) (a : AckAcc) (hu : s.sndUna < 65536) :
    drainFront now n s a = if s.lenBytes < sizes (s.segs.take n) then none
      else some (popFront (min n s.segs.length) s, drained now a (s.segs.take n)) := by
  induction n generalizing s a with
  | zero => simp [drainFront, popFront_zero s hu, drained]
  | succ n ih =>
    unfold drainFront
    split
    · rename_i hs; simp [hs, popFront_zero s hu, drained]
    · rename_i seg rest hs
      have hw : wadd s.sndUna 1 < 65536 := by unfold wadd; omega
      split
      · rename_i hlt; simp [hs]; omega
      · rename_i hlt
        rw [ih _ _ hw, popFront_succ _ s seg rest hs]
        simp only [hs, List.take_succ_cons, sizes_cons, List.length_cons, Nat.add_min_add_right, drained, List.foldl_cons,
          Nat.sub_lt_iff_lt_add' (Nat.le_of_not_lt hlt)]

def deliveredFront (l : List Segment) : Nat := l.findIdx (!·.isDelivered)

theorem deliveredFront_le (l : List Segment) : deliveredFront l ≤ l.length := List.findIdx_le_length

theorem deliveredFront_cons (g : Segment) (l : List Segment) :
    deliveredFront (g :: l) = if g.isDelivered then deliveredFront l + 1 else 0 := by
  rw [deliveredFront, List.findIdx_cons]; cases g.isDelivered <;> rfl

theorem deliveredFront_head (l : List Segment) (g : Segment) (h : (l.drop (deliveredFront l)).head? = some g) :
    g.isDelivered = false := by
  rw [List.head?_drop] at h
  simpa using List.findIdx_of_getElem?_eq_some h

theorem cleanupFront_eq (n : Nat) (s : Segments) (a : AckAcc) (hu : s.sndUna < 65536) (hn : s.segs.length < n) :
    cleanupFront n s a = if s.lenBytes < sizes (s.segs.take (deliveredFront s.segs)) then none
      else some (popFront (deliveredFront s.segs) s,
        { a with removed := a.removed + deliveredFront s.segs,
                 payloadSize := a.payloadSize + sizes (s.segs.take (deliveredFront s.segs)) }) := by
  induction n generalizing s a with
  | zero => omega
  | succ n ih =>
    unfold cleanupFront
    split
    · rename_i hs; simp [hs, deliveredFront, popFront_zero s hu]
    · rename_i seg rest hs
      have hw : wadd s.sndUna 1 < 65536 := by unfold wadd; omega
      rw [hs, deliveredFront_cons]
      cases hd : seg.isDelivered
      · simp [popFront_zero s hu]
      · simp only [Bool.not_true, Bool.false_eq_true, if_false, if_true]
        split
        · rename_i hlt; simp; omega
        · rename_i hlt
          rw [ih _ _ hw (by simp only; rw [hs] at hn; simp at hn; omega), popFront_succ _ s seg rest hs]
          simp only [List.take_succ_cons, sizes_cons, Nat.sub_lt_iff_lt_add' (Nat.le_of_not_lt hlt), Nat.add_assoc, Nat.add_comm 1]

theorem SInv.popFront {s : Segments} (h : SInv s) (k : Nat) :
    ¬ s.lenBytes < sizes (s.segs.take k) ∧
    SInv { popFront k s with removedOffset := s.removedOffset + sizes (s.segs.take k) } := by
  obtain ⟨hb, hc, he⟩ := h
  rw [sizes_take_drop s.segs k] at hb
  -- (`popFront` by its full name: inside `SInv.popFront` the bare name is this theorem)
  exact ⟨by omega, by simp only [Lemmas.Segments.popFront]; omega, contig_drop _ _ k hc,
    by simp only [Lemmas.Segments.popFront]; omega⟩

theorem markSacked_map {α : Type} (f : Segment → α) (hf : ∀ g, f { g with isDelivered := true } = f g)
    (now : Nat) (l : List Segment) (bits : List Bool) (a : AckAcc) :
    (markSacked now l bits a).1.map f = l.map f ∧ (markSacked now l bits a).2.payloadSize = a.payloadSize ∧
    (markSacked now l bits a).2.removed = a.removed := by
  induction l generalizing bits a with
  | nil => simp [markSacked]
  | cons seg rest ih =>
    cases bits with
    | nil => exact ⟨rfl, rfl, rfl⟩
    | cons bit bits =>
      unfold markSacked
      split <;> simp only [List.map_cons, ih, hf, and_self]

/-- The SACK-marking middle part of `remove_up_to_ack` as a function of the state after the drain (the model has it
inline; `removeUpToAck_closed` glues the copy back by `rfl`). -/
def sackPhase (now ackNr : Nat) (sack : Option Sack) (s1 : Segments) (a1 : AckAcc) : Segments × AckAcc :=
  match s1.firstSeqNr, sack with
  | some first, some sk =>
    if seqGt first ackNr then
      let sackStart := wadd ackNr 2
      let sso := seqSub sackStart first
      let bits := sackBits sk
      let (segs', a) :=
        if sso ≥ 0 then
          let r := markSacked now (s1.segs.drop sso.toNat) bits a1
          (s1.segs.take sso.toNat ++ r.1, r.2)
        else
          markSacked now s1.segs (bits.drop (-sso).toNat) a1
      ({ s1 with segs := segs', sackDepth := sk.len, lastSackEmpty := sk.countOnes = 0 }, a)
    else (s1, a1)
  | _, _ => (s1, a1)

theorem sackPhase_spec (now ackNr : Nat) (sack : Option Sack) (s1 : Segments) (a1 : AckAcc) :
    ∃ segs' sd le, (sackPhase now ackNr sack s1 a1).1 = { s1 with segs := segs', sackDepth := sd, lastSackEmpty := le } ∧
      (∀ {α : Type} (f : Segment → α), (∀ g, f { g with isDelivered := true } = f g) → segs'.map f = s1.segs.map f) ∧
      (sackPhase now ackNr sack s1 a1).2.payloadSize = a1.payloadSize ∧
      (sackPhase now ackNr sack s1 a1).2.removed = a1.removed := by
  unfold sackPhase
  split
  · split
    · dsimp only
      split
      -- (`markSacked_map` at the trivial projection `fun _ => ()`, for its half about the accumulator)
      · refine ⟨_, _, _, rfl, fun f hf => ?_, (markSacked_map (fun _ => ()) (fun _ => rfl) ..).2⟩
        rw [List.map_append, (markSacked_map f hf ..).1, ← List.map_append, List.take_append_drop]
      · exact ⟨_, _, _, rfl, fun f hf => (markSacked_map f hf ..).1, (markSacked_map (fun _ => ()) (fun _ => rfl) ..).2⟩
    · exact ⟨_, _, _, rfl, fun _ _ => rfl, rfl, rfl⟩
  · exact ⟨_, _, _, rfl, fun _ _ => rfl, rfl, rfl⟩

/-- how many segments the cumulative acknowledgement `ackNr` covers (`+ 1`: `ack_nr = snd_una` acknowledges the first) -/
def cumAcked (s : Segments) (ackNr : Nat) : Nat :=
  if seqSub ackNr s.sndUna ≥ 0 then min ((seqSub ackNr s.sndUna).toNat + 1) s.segs.length else 0

theorem cumAcked_le (s : Segments) (ackNr : Nat) : cumAcked s ackNr ≤ s.segs.length := by
  unfold cumAcked; split <;> omega

/-- Safety (`removeUpToAck_ok`) and relabelling invariance (`C09Shift.removeUpToAck_shift`) are both read off this equation
(`hu`: only for `advance u 0 = u`, `popFront_zero`). -/
theorem removeUpToAck_closed (s : Segments) (now ackNr : Nat) (sack : Option Sack) (hu : s.sndUna < 65536) :
    s.removeUpToAck now ackNr sack =
      if s.lenBytes < sizes (s.segs.take (cumAcked s ackNr)) then none else
      let p := sackPhase now ackNr sack (popFront (cumAcked s ackNr) s) (drained now {} (s.segs.take (cumAcked s ackNr)))
      let k := deliveredFront p.1.segs
      if p.1.lenBytes < sizes (p.1.segs.take k) then none else
      some ({ popFront k p.1 with removedOffset := p.1.removedOffset + (p.2.payloadSize + sizes (p.1.segs.take k)) },
        { ackedSegmentsCount := p.2.removed + k, ackedBytes := p.2.payloadSize + sizes (p.1.segs.take k),
          maxAckedPayloadSize := p.2.maxAcked, newlySackedSegmentCount := p.2.newlySackedSegs,
          newlySackedByteCount := p.2.newlySackedBytes, newRtt := p.2.newRtt }) := by
  have e : s.removeUpToAck now ackNr sack =
      (match drainFront now (cumAcked s ackNr) s {} with
       | none => none
       | some (s1, a1) =>
         let r := sackPhase now ackNr sack s1 a1
         match cleanupFront (r.1.segs.length + 1) r.1 r.2 with
         | none => none
         | some (s3, a3) =>
           some ({ s3 with removedOffset := s3.removedOffset + a3.payloadSize },
             { ackedSegmentsCount := a3.removed, ackedBytes := a3.payloadSize, maxAckedPayloadSize := a3.maxAcked,
               newlySackedSegmentCount := a3.newlySackedSegs, newlySackedByteCount := a3.newlySackedBytes,
               newRtt := a3.newRtt })) := by
    unfold Segments.removeUpToAck sackPhase cumAcked
    by_cases h : seqSub ackNr s.sndUna ≥ 0 <;> simp only [h, if_true, if_false] <;> rfl
  rw [e, drainFront_eq _ _ _ _ hu, Nat.min_eq_left (cumAcked_le s ackNr)]
  by_cases h1 : s.lenBytes < sizes (s.segs.take (cumAcked s ackNr)) <;> simp only [h1, if_true, if_false]
  obtain ⟨_, _, _, e2, _⟩ := sackPhase_spec now ackNr sack (popFront (cumAcked s ackNr) s)
    (drained now {} (s.segs.take (cumAcked s ackNr)))
  generalize sackPhase now ackNr sack (popFront (cumAcked s ackNr) s) (drained now {} (s.segs.take (cumAcked s ackNr))) = p at e2 ⊢
  rw [cleanupFront_eq _ _ _ (by rw [e2]; exact Nat.mod_lt _ (by decide)) (Nat.lt_succ_self _)]
  by_cases h3 : p.1.lenBytes < sizes (p.1.segs.take (deliveredFront p.1.segs)) <;> simp only [h3, if_true, if_false]
  rfl

/-- What `remove_up_to_ack` has done when it returns `(s', r)`: popped `k` segments from the front, and otherwise
only set `is_delivered` flags. -/
structure Acked (s : Segments) (k : Nat) (s' : Segments) (r : OnAckResult) : Prop where
  le : k ≤ s.segs.length
  inv : SInv s'
  segs : ∀ {α : Type} (f : Segment → α), (∀ g, f { g with isDelivered := true } = f g) →
    s'.segs.map f = (s.segs.drop k).map f
  sndUna : s'.sndUna = advance s.sndUna k
  count : r.ackedSegmentsCount = k
  bytes : r.ackedBytes = sizes (s.segs.take k)
  removedOffset : s'.removedOffset = s.removedOffset + r.ackedBytes
  offset : s'.offset = s.offset
  front : ∀ g, s'.segs.head? = some g → g.isDelivered = false

theorem Acked.shape {s s' k r} (h : Acked s k s' r) : shape s' = (shape s).drop k :=
  (h.segs key fun _ => rfl).trans List.map_drop

theorem Acked.length {s s' k r} (h : Acked s k s' r) : s'.segs.length = s.segs.length - k := by
  rw [length_eq_of_map_eq (h.segs key fun _ => rfl), List.length_drop]

theorem Acked.una_lt {s s' k r} (h : Acked s k s' r) : s'.sndUna < 65536 := by
  rw [h.sndUna]; exact Nat.mod_lt _ (by decide)

/-- **`remove_up_to_ack` for any acknowledgement number and any selective-ACK bits**: never panics,
keeps the byte accounting, removes exactly a prefix of the queue (`k` segments, at least those the cumulative
acknowledgement covers), reports exactly their bytes, advances `snd_una` by `k`, and leaves a non-delivered front. -/
theorem removeUpToAck_ok (s : Segments) (now ackNr : Nat) (sack : Option Sack) (h : SInv s) (hu : s.sndUna < 65536) :
    ∃ s' r k, s.removeUpToAck now ackNr sack = some (s', r) ∧ Acked s k s' r ∧ cumAcked s ackNr ≤ k := by
  -- three stages, as in `removeUpToAck_closed`: the drain pops `k1`, the SACK phase rewrites flags only (`segs2`, `hmap`),
  -- the clean-up pops the `deliveredFront segs2` segments that are now delivered
  have hk1 := cumAcked_le s ackNr
  rw [removeUpToAck_closed _ _ _ _ hu]
  generalize cumAcked s ackNr = k1 at hk1 ⊢
  obtain ⟨segs2, sd, le, e2, hmap, hp2, hr2⟩ := sackPhase_spec now ackNr sack (popFront k1 s) (drained now {} (s.segs.take k1))
  rw [(drained_spec ..).2] at hp2
  rw [(drained_spec ..).1, List.length_take, Nat.min_eq_left hk1] at hr2
  rw [if_neg (h.popFront k1).1]
  dsimp only
  generalize sackPhase now ackNr sack (popFront k1 s) (drained now {} (s.segs.take k1)) = p at e2 hp2 hr2 ⊢
  obtain ⟨s2, a2⟩ := p
  subst e2
  have hlen2 : segs2.length = s.segs.length - k1 :=
    (length_eq_of_map_eq (hmap key fun _ => rfl)).trans List.length_drop
  have h2 : SInv { popFront k1 s with
      segs := segs2, sackDepth := sd, lastSackEmpty := le, removedOffset := s.removedOffset + sizes (s.segs.take k1) } :=
    (h.popFront k1).2.congr (hmap key (fun _ => rfl)) rfl rfl rfl
  have hk3 := deliveredFront_le segs2
  have hsz : sizes (segs2.take (deliveredFront segs2)) = sizes ((s.segs.drop k1).take (deliveredFront segs2)) :=
    sizes_congr _ _ (by simp only [List.map_take]; rw [hmap key (fun _ => rfl)]; rfl)
  rw [if_neg (h2.popFront _).1]
  simp only [popFront] at hp2 hr2 ⊢
  refine ⟨_, _, k1 + deliveredFront segs2, rfl, ⟨by omega, (h2.popFront _).2.congr rfl rfl (by simp only; omega) rfl,
    fun f hf => ?_, by simp only [advance, Nat.mod_add_mod, Nat.add_assoc], by simp only; omega, ?_, rfl, rfl,
    deliveredFront_head segs2⟩, Nat.le_add_right _ _⟩
  · simp only [List.map_drop, hmap f hf, popFront, List.drop_drop]
  · simp only [List.take_add, sizes_append, hsz]; omega

theorem pipeLoop_map {α : Type} (f : Segment → α)
    (hf : ∀ g x y z, f { g with hasSacksAfterIt := x, isExpired := y, isLost := z } = f g)
    (s : Segments) (highRxt thr now : Nat) (l : List (Nat × Segment)) (a : PipeAcc) :
    (pipeLoop s highRxt thr now l a).1.map f = l.map (fun p => f p.2) := by
  induction l generalizing a with
  | nil => rfl
  | cons p rest ih =>
    have hstep : f (pipeStep s highRxt thr now p.1 p.2 a).1 = f p.2 := by
      unfold pipeStep
      split
      · rfl
      · split
        · rfl
        · exact hf ..
    simp only [pipeLoop, List.map_cons, ih, hstep]

/-- **`calc_pipe` only rewrites the loss-estimation flags** (`has_sacks_after_it`, `is_expired`, `is_lost`) of queued
segments, and cannot panic while `high_data` lies within the queue. -/
theorem calcPipe_ok (s : Segments) (highRxt highData rtt now : Nat)
    (hg : (seqSub highData s.sndUna).toNat ≤ s.segs.length) :
    ∃ segs' p, s.calcPipe highRxt highData rtt now = some ({ s with segs := segs' }, p) ∧
      ∀ {α : Type} (f : Segment → α), (∀ g x y z, f { g with hasSacksAfterIt := x, isExpired := y, isLost := z } = f g) →
        segs'.map f = s.segs.map f := by
  unfold Segments.calcPipe
  simp only [Nat.not_lt.2 hg, if_false]
  refine ⟨_, _, rfl, fun f hf => ?_⟩
  rw [List.map_append, List.map_reverse, pipeLoop_map f hf, ← List.map_reverse, List.reverse_reverse, List.map_map]
  show List.map (f ∘ Prod.fst) _ ++ _ = _
  rw [← List.map_map, List.zipIdx_map_fst, ← List.map_append, List.take_append_drop]

theorem onSent_ok (s : Segments) (idx now : Nat) :
    ∃ segs', s.onSent idx now = { s with segs := segs' } ∧
      ∀ {α : Type} (f : Segment → α), (∀ g, f (g.onSent now) = f g) → segs'.map f = s.segs.map f := by
  unfold Segments.onSent
  cases hg : s.segs[idx]? with
  | none => exact ⟨_, rfl, fun _ _ => rfl⟩
  | some g =>
    refine ⟨_, rfl, fun f hf => ?_⟩
    obtain ⟨hi, rfl⟩ := List.getElem?_eq_some_iff.1 hg
    rw [List.map_set, hf, ← List.getElem_map f (h := by simpa using hi), List.set_getElem_self]

/-- **`iter_mut_for_sending` never panics and never yields a delivered segment**; every view addresses
`ring[payload_offset, payload_offset + size)` with `payload_offset = offset_abs − removed_offset`,
inside the bytes the queue accounts for. -/
theorem iterForSending_ok (s : Segments) (start : Option Nat) (h : SInv s) :
    ∃ vs, s.iterForSending start = some vs ∧
      ∀ v ∈ vs, v.seg.isDelivered = false ∧ v.idx < s.segs.length ∧ s.segs[v.idx]? = some v.seg ∧
        v.payloadOffset + s.removedOffset = v.seg.offsetAbs ∧
        v.payloadOffset + v.seg.payloadSize ≤ s.lenBytes ∧
        v.seqNr = wadd s.sndUna (v.idx % 65536) := by
  unfold Segments.iterForSending
  extract_lets _ offset views
  clear_value offset
  have hmem : ∀ p ∈ (s.segs.drop offset).zipIdx, s.segs[offset + p.2]? = some p.1 := fun p hp => by
    rw [← List.getElem?_drop]; exact List.mem_zipIdx_iff_getElem?.1 hp
  have hr := fun p hp => contig_range _ _ h.contig _ (List.mem_of_getElem? (hmem p hp))
  -- the `checked_sub` never fails: every view is `some`
  have hviews : views = (s.segs.drop offset).zipIdx.map fun p => some (s.mkView offset p) :=
    List.map_congr_left fun p hp => if_neg (by have := hr p hp; omega)
  clear_value views
  subst hviews
  simp only [List.any_map, List.filterMap_map, Function.comp_def, Option.isNone_some, List.any_eq_true, Bool.false_eq_true,
    and_false, exists_false, if_false, id]
  refine ⟨_, rfl, fun v hv => ?_⟩
  obtain ⟨hv1, hv2⟩ := List.mem_filter.1 hv
  obtain ⟨p, hp, hpv⟩ := List.mem_filterMap.1 hv1
  cases hpv
  have := hr p hp; have hb := h.bytes
  exact ⟨by simpa using hv2, (List.getElem?_eq_some_iff.1 (hmem p hp)).1, hmem p hp, by simp only [Segments.mkView]; omega,
    by simp only [Segments.mkView]; omega, rfl⟩

def U (g : Segment) : Bool := decide (g.sent = .notSent)

/-- **`trailingUnsent` counts the segments behind the last transmitted one.** What the queue operations do to it
(`tu_drop`, `tu_append`, `tu_take`) is then what `List.findIdx` does on `take`, `++` and `drop`. -/
theorem tu_eq (l : List Segment) : trailingUnsent l = l.reverse.findIdx (·.sent ≠ .notSent) := by
  induction l with
  | nil => rfl
  | cons g rest ih =>
    have hle : trailingUnsent rest ≤ rest.length := by rw [ih, ← List.length_reverse]; exact List.findIdx_le_length
    have hall : (rest.all (fun x => x.sent = .notSent) = true) ↔ trailingUnsent rest = rest.length := by
      rw [ih, ← List.length_reverse, List.findIdx_eq_length]; simp
    rw [List.reverse_cons, List.findIdx_append, List.findIdx_singleton, ← ih, List.length_reverse]
    simp only [trailingUnsent, hall]
    -- all of `rest` unsent: `rest.length + 1` on both sides if `g` is unsent too, `rest.length = 0 + rest.length` if not;
    -- otherwise both sides are `trailingUnsent rest`
    by_cases hg : g.sent = .notSent <;> by_cases hr : trailingUnsent rest = rest.length <;> simp [hg, hr] <;> omega

theorem tu_le (l : List Segment) : trailingUnsent l ≤ l.length := by
  rw [tu_eq, ← List.length_reverse]; exact List.findIdx_le_length

theorem tu_congr (l l' : List Segment) (h : l.map (·.sent) = l'.map (·.sent)) : trailingUnsent l = trailingUnsent l' := by
  have e : ∀ l : List Segment, trailingUnsent l = (l.map (·.sent)).reverse.findIdx (· ≠ .notSent) := fun l => by
    rw [tu_eq, ← List.map_reverse, List.findIdx_map]; rfl
  rw [e, e, h]

theorem tu_drop (l : List Segment) (k : Nat) : trailingUnsent (l.drop k) = min (trailingUnsent l) (l.length - k) := by
  rw [tu_eq, tu_eq, List.reverse_drop, List.findIdx_take, Nat.min_comm]

theorem tu_append (a b : List Segment) :
    trailingUnsent (a ++ b) = if trailingUnsent b < b.length then trailingUnsent b else trailingUnsent a + b.length := by
  rw [tu_eq, tu_eq, tu_eq, List.reverse_append, List.findIdx_append, List.length_reverse]

theorem tu_sent (a b : List Segment) (g : Segment) (hg : g.sent ≠ .notSent) :
    trailingUnsent (a ++ g :: b) = trailingUnsent b := by
  have e : trailingUnsent (g :: b) = trailingUnsent b := by rw [trailingUnsent, if_neg (fun h => hg h.2)]
  rw [tu_append, e, List.length_cons, if_pos (Nat.lt_succ_of_le (tu_le b))]

theorem tu_take (l : List Segment) : trailingUnsent (l.take (l.length - trailingUnsent l)) = 0 := by
  rw [tu_eq (l.take _), List.reverse_take, show l.length - (l.length - trailingUnsent l) = trailingUnsent l by
    have := tu_le l; omega, tu_eq l]
  by_cases h : l.reverse.findIdx (·.sent ≠ .notSent) < l.reverse.length
  · rw [List.drop_eq_getElem_cons h, List.findIdx_cons, List.findIdx_getElem (w := h), cond_true]
  · rw [List.drop_of_length_le (Nat.le_of_not_lt h), List.findIdx_nil]

/-- **`discard_unsent` keeps the queue's accounting invariant**, removes exactly the never-sent tail and touches
nothing else. -/
theorem discardUnsent_ok (s : Segments) (h : SInv s) :
    SInv s.discardUnsent ∧ s.discardUnsent.sndUna = s.sndUna ∧ s.discardUnsent.removedOffset = s.removedOffset ∧
    s.discardUnsent.segs = s.segs.take (s.segs.length - trailingUnsent s.segs) ∧
    s.discardUnsent.segs.length = s.segs.length - trailingUnsent s.segs ∧
    trailingUnsent s.discardUnsent.segs = 0 :=
  ⟨(h.giveBack _).2.2, rfl, rfl, rfl, by simp [Segments.discardUnsent], tu_take s.segs⟩

theorem removeUpToAck_queue (s : Segments) (now ackNr : Nat) (sack : Option Sack) (h : SInv s) (hu : s.sndUna < 65536) :
    ∃ s' r k, s.removeUpToAck now ackNr sack = some (s', r) ∧ SInv s' ∧ k ≤ s.segs.length ∧
      s'.sndUna = advance s.sndUna k ∧ s'.segs.length = s.segs.length - k ∧
      trailingUnsent s'.segs = min (trailingUnsent s.segs) (s.segs.length - k) :=
  let ⟨s', r, k, hrm, hA, _⟩ := removeUpToAck_ok s now ackNr sack h hu
  ⟨s', r, k, hrm, hA.inv, hA.le, hA.sndUna, hA.length, by rw [tu_congr _ _ (hA.segs (·.sent) fun _ => rfl), tu_drop]⟩

theorem calcPipe_queue (s : Segments) (highRxt highData rtt now : Nat) (h : SInv s)
    (hg : (seqSub highData s.sndUna).toNat ≤ s.segs.length) :
    ∃ s' p, s.calcPipe highRxt highData rtt now = some (s', p) ∧ SInv s' ∧ s'.sndUna = s.sndUna ∧
      s'.segs.length = s.segs.length ∧ trailingUnsent s'.segs = trailingUnsent s.segs :=
  let ⟨_, p, hcp, hm⟩ := calcPipe_ok s highRxt highData rtt now hg
  ⟨_, p, hcp, h.congr (hm key fun _ _ _ _ => rfl) rfl rfl rfl, rfl,
    length_eq_of_map_eq (hm key fun _ _ _ _ => rfl), tu_congr _ _ (hm (·.sent) fun _ _ _ _ => rfl)⟩

theorem tu_onSent (s : Segments) (idx now : Nat) (hi : idx < s.segs.length) :
    trailingUnsent (s.onSent idx now).segs ≤ trailingUnsent s.segs ∧
    idx + 1 + trailingUnsent (s.onSent idx now).segs ≤ s.segs.length := by
  have hsent : (s.segs[idx].onSent now).sent ≠ .notSent := by unfold Segment.onSent; cases s.segs[idx].sent <;> simp
  unfold Segments.onSent
  rw [List.getElem?_eq_getElem hi]
  dsimp only
  rw [List.set_eq_take_append_cons_drop, if_pos hi, tu_sent _ _ _ hsent, tu_drop]
  omega

theorem onSent_queue (s : Segments) (idx now : Nat) (h : SInv s) (hi : idx < s.segs.length) :
    SInv (s.onSent idx now) ∧ (s.onSent idx now).sndUna = s.sndUna ∧
    (s.onSent idx now).segs.length = s.segs.length ∧
    trailingUnsent (s.onSent idx now).segs ≤ trailingUnsent s.segs ∧
    idx + 1 + trailingUnsent (s.onSent idx now).segs ≤ s.segs.length := by
  obtain ⟨_, e, hm⟩ := onSent_ok s idx now
  rw [e]
  exact ⟨h.congr (hm key fun _ => rfl) rfl rfl rfl, rfl, length_eq_of_map_eq (hm key fun _ => rfl), e ▸ tu_onSent s idx now hi⟩

theorem enqueue_queue (s : Segments) (len : Nat) (probe : Bool) (h : SInv s) :
    SInv (s.enqueue len probe) ∧ (s.enqueue len probe).sndUna = s.sndUna ∧
    (s.enqueue len probe).segs.length = s.segs.length + 1 ∧
    trailingUnsent (s.enqueue len probe).segs ≤ trailingUnsent s.segs + 1 :=
  ⟨enqueue_inv s len probe h, rfl, List.length_append .., by
    rw [Segments.enqueue, tu_append, List.length_singleton]; split <;> omega⟩

end UtpVerif.Lemmas.Segments
