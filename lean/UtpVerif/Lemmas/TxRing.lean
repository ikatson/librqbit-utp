import UtpVerif.Model.TxRing
/-! `prepare_2_ioslices` of `Model/TxRing.lean` in one equation (for C19, and for `send_data!`, which gathers its
payload from the ring). -/
namespace UtpVerif.Lemmas.TxRing
open UtpVerif.Model UtpVerif.Model.TxRing

/-- One `if` of a hypothesis taken apart, here and in `C19.pollWrite_spec` (`split at h` on a cascade of `if`s over a
record rewrites the record in every branch). -/
theorem of_ite_eq {α : Type} {c : Prop} [Decidable c] {a b x : α} (h : (if c then a else b) = x) :
    c ∧ a = x ∨ ¬ c ∧ b = x := by
  split at h
  · exact .inl ⟨‹_›, h⟩
  · exact .inr ⟨‹_›, h⟩

/-- **`prepare_2_ioslices` reads the concatenation of its two slices**: whatever they are, the gathered bytes are
`(first ++ second)[off, off + len)`, and each `Bug*` error occurs exactly when its bound is exceeded. -/
theorem prepare2_eq (first second : List Nat) (off len : Nat) :
    prepare2 first second off len =
      if first.length + second.length < off then .bugOffset
      else if first.length + second.length < off + len then .bugLength
      else .ok (((first ++ second).drop off).take len) := by
  unfold prepare2
  simp only [List.length_drop, List.drop_append, List.take_append]
  by_cases h1 : first.length + second.length < off
  · rw [if_pos (by omega), if_pos h1]
  rw [if_neg (by omega), if_neg h1]
  by_cases h2 : first.length + second.length < off + len
  · rw [if_pos (by omega), if_pos h2]
  rw [if_neg (by omega), if_neg h2]
  rcases Nat.le_total first.length off with hk | hk
  · -- `off` is past the first slice: everything is read from the second
    simp [Nat.min_eq_left hk, List.drop_of_length_le hk, Nat.sub_eq_zero_of_le hk]
  · rcases Nat.le_total len (first.length - off) with hl | hl
    · -- the range ends inside the first slice: nothing from the second
      simp [Nat.min_eq_right hk, Nat.sub_eq_zero_of_le hk, Nat.min_eq_right hl, Nat.sub_eq_zero_of_le hl]
    · -- the range straddles the wrap
      simp [Nat.min_eq_right hk, Nat.sub_eq_zero_of_le hk, Nat.min_eq_left hl, List.take_of_length_le, hl]

theorem prepare2_len (first second : List Nat) (off len : Nat) (p : List Nat)
    (h : prepare2 first second off len = .ok p) : p.length = len := by
  rw [prepare2_eq] at h
  obtain ⟨-, h⟩ | ⟨-, h⟩ := of_ite_eq h
  · cases h
  obtain ⟨-, h⟩ | ⟨hl, h⟩ := of_ite_eq h <;> cases h
  rw [List.length_take, List.length_drop, List.length_append]
  omega

end UtpVerif.Lemmas.TxRing
