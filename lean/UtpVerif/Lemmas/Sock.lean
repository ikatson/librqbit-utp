import UtpVerif.Model.Sock
/-! What the functions of `Model/Sock.lean` do to the demultiplexing table, to the two queues (cached SYNs, waiting
acceptors) and which effects they report. One specification per function, each proved in one pass over its code:
`attempt_spec` for a pairing attempt, `Quiet` for the two loops built from it, `Outcome` for one event. The
properties C12 and C13 are read off these. (The file is in the model's namespace `UtpVerif.Model.Disp`: `Extends.insertKey`,
`TInv.removeKey` and the like are lemmas about the model functions of those names.) -/
namespace UtpVerif.Model.Disp
open UtpVerif.Model UtpVerif.Gen

/-- unique keys and the connection limit -/
structure TInv (m : Nat) (d : Disp) : Prop where
  nodup : d.keys.Nodup
  limit : d.streams.length ≤ d.maxActive
  max : d.maxActive = m

theorem not_mem_keys {d : Disp} {k : Key} (hk : d.hasKey k = false) : k ∉ d.streams.map (·.1) :=
  fun h => nomatch hk.symm.trans (List.contains_iff_mem.2 h)

/-- `HashMap::remove` / the removal inside `insertKey` of a key that is not there -/
theorem filter_absent {d : Disp} {k : Key} (hk : d.hasKey k = false) : d.streams.filter (·.1 != k) = d.streams :=
  List.filter_eq_self.2 fun x hx => by
    have : x.1 ≠ k := fun he => not_mem_keys hk (he ▸ List.mem_map_of_mem hx)
    simpa using this

theorem find_of_nodup_keys {l : List (Key × Nat)} (hn : (l.map (·.1)).Nodup) {x : Key × Nat} (hx : x ∈ l) :
    l.find? (·.1 == x.1) = some x := by
  induction l with
  | nil => cases hx
  | cons y ys ih =>
    rw [List.map_cons, List.nodup_cons] at hn
    rcases List.mem_cons.mp hx with rfl | hx'
    · simp
    · have : y.1 ≠ x.1 := fun he => hn.1 (he ▸ List.mem_map_of_mem hx')
      simpa [List.find?_cons, this] using ih hn.2 hx'

theorem streamsFull_iff (d : Disp) : d.streamsFull = true ↔ d.maxActive ≤ d.streams.length := by
  unfold streamsFull; exact decide_eq_true_iff

theorem streamsFull_false_iff (d : Disp) : d.streamsFull = false ↔ d.streams.length < d.maxActive := by
  unfold streamsFull; rw [decide_eq_false_iff_not]; exact Nat.not_le

theorem TInv.removeKey {m : Nat} {d : Disp} (h : TInv m d) (k : Key) : TInv m (d.removeKey k) :=
  ⟨h.nodup.sublist (List.filter_sublist.map _), Nat.le_trans (List.length_filter_le _ _) h.limit, h.max⟩

/-- `Grows m t t'`: table `t'` is `t` with streams appended under keys that were free, each while fewer than `m`
were registered. This is all that accepting and connecting ever do to the table. -/
inductive Grows (m : Nat) (t : List (Key × Nat)) : List (Key × Nat) → Prop
  | refl : Grows m t t
  | insert {t'} (k : Key) (i : Nat) : Grows m t t' → k ∉ t'.map (·.1) → t'.length < m → Grows m t (t' ++ [(k, i)])

namespace Grows
variable {m : Nat} {t t' t'' : List (Key × Nat)}

theorem trans (h1 : Grows m t t') (h2 : Grows m t' t'') : Grows m t t'' := by
  induction h2 with
  | refl => exact h1
  | insert k i _ hk hl ih => exact ih.insert k i hk hl

theorem isPrefix (h : Grows m t t') : t <+: t' := by
  induction h with
  | refl => exact List.prefix_refl _
  | insert k i _ _ _ ih => exact ih.trans (List.prefix_append _ _)

theorem eq_of_full (h : Grows m t t') (hf : m ≤ t.length) : t' = t := by
  induction h with
  | refl => rfl
  | insert k i _ _ hl ih => subst ih; omega

theorem inv (h : Grows m t t') (hn : (t.map (·.1)).Nodup) (hl : t.length ≤ m) :
    (t'.map (·.1)).Nodup ∧ t'.length ≤ m := by
  induction h with
  | refl => exact ⟨hn, hl⟩
  | insert k i _ hk hlt ih =>
    refine ⟨?_, by rw [List.length_append]; exact hlt⟩
    rw [List.map_append, List.nodup_append]
    refine ⟨ih.1, by simp, fun a ha b hb he => hk ?_⟩
    obtain rfl : b = k := List.mem_singleton.1 hb
    exact he ▸ ha

end Grows

/-- Stated on these two fields alone, so that it is insensitive (by `rfl`) to what a step does to any other field. -/
def Extends (d d' : Disp) : Prop := d'.maxActive = d.maxActive ∧ Grows d.maxActive d.streams d'.streams

namespace Extends
variable {m : Nat} {d d' d'' : Disp} {k : Key}

theorem refl (d : Disp) : Extends d d := ⟨rfl, .refl⟩

theorem trans (h1 : Extends d d') (h2 : Extends d' d'') : Extends d d'' :=
  ⟨h2.1.trans h1.1, h1.2.trans (h1.1 ▸ h2.2)⟩

theorem inv (h : Extends d d') (hi : TInv m d) : TInv m d' :=
  have := h.2.inv hi.nodup hi.limit
  ⟨this.1, h.1 ▸ this.2, h.1 ▸ hi.max⟩

theorem keeps (h : Extends d d') {x : Key × Nat} (hx : x ∈ d.streams) : x ∈ d'.streams :=
  h.2.isPrefix.subset hx

theorem full (h : Extends d d') (hf : d.streamsFull = true) : d'.streams = d.streams :=
  h.2.eq_of_full ((streamsFull_iff d).1 hf)

theorem insertKey (hf : d.streamsFull = false) (hk : d.hasKey k = false) : Extends d (d.insertKey k).1 := by
  refine ⟨rfl, ?_⟩
  show Grows _ _ (d.streams.filter (·.1 != k) ++ _)
  rw [filter_absent hk]
  exact .insert k _ .refl (not_mem_keys hk) ((streamsFull_false_iff d).1 hf)

/-- the hand-over failed right after the insert: the key, absent before, is removed again -/
theorem removeKey_absent (hk : d.hasKey k = false) : Extends d (d.removeKey k) :=
  ⟨rfl, by show Grows _ _ (d.streams.filter _); rw [filter_absent hk]; exact .refl⟩

end Extends

/-- `HashMap::insert` below the limit keeps the invariant also when it replaces an entry (no caller does:
`on_recv` and `match_syn_with_accept` check the key first). -/
theorem insertKey_inv {m : Nat} (d : Disp) (k : Key) (hf : d.streamsFull = false) (h : TInv m d) :
    TInv m (d.insertKey k).1 := by
  have hk : (d.removeKey k).hasKey k = false := by simp [hasKey, keys, removeKey]
  have hf' : (d.removeKey k).streamsFull = false :=
    (streamsFull_false_iff _).2 (Nat.lt_of_le_of_lt (List.length_filter_le _ _) ((streamsFull_false_iff d).1 hf))
  simpa [insertKey, removeKey] using (Extends.insertKey hf' hk).inv (h.removeKey k)

def _root_.UtpVerif.Model.Eff.isDelivered : Eff → Bool
  | .delivered _ _ => true
  | _ => false

def NoDeliver (effs : List Eff) : Prop := ∀ e ∈ effs, e.isDelivered = false

theorem NoDeliver.nil : NoDeliver [] := fun _ h => nomatch h
theorem NoDeliver.append {a b : List Eff} (ha : NoDeliver a) (hb : NoDeliver b) : NoDeliver (a ++ b) :=
  fun e he => (List.mem_append.mp he).elim (ha e) (hb e)
theorem NoDeliver.single {e : Eff} (h : e.isDelivered = false) : NoDeliver [e] :=
  fun x hx => by rw [List.mem_singleton.mp hx]; exact h

/-- acceptors in the order they will be served: the cached one, then the channel -/
def accQ (d : Disp) : List Acceptor := d.nextAcceptor.toList ++ d.accChan

/-- `l'` is what is left of `l` after some elements were taken from its front -/
def Suffix {α} (l' l : List α) : Prop := ∃ n, l' = l.drop n

theorem Suffix.refl {α} (l : List α) : Suffix l l := ⟨0, rfl⟩
theorem Suffix.trans {α} {a b c : List α} (h1 : Suffix a b) (h2 : Suffix b c) : Suffix a c := by
  obtain ⟨n, rfl⟩ := h1; obtain ⟨m, rfl⟩ := h2; exact ⟨m + n, by rw [List.drop_drop]⟩
theorem Suffix.of_eq {α} {l l' : List α} (h : l = l') : Suffix l' l := ⟨0, h.symm⟩
theorem Suffix.of_cons {α} {x : α} {l l' : List α} (h : l = x :: l') : Suffix l' l := ⟨1, h ▸ rfl⟩
theorem Suffix.length_le {α} {a b : List α} (h : Suffix a b) : a.length ≤ b.length := by
  obtain ⟨n, rfl⟩ := h; simp

/-- A quiet stretch of dispatcher work: the table only grows, acceptors leave their queue from the front only,
nothing is delivered. -/
structure Quiet (d d' : Disp) (e : List Eff) : Prop where
  table : Extends d d'
  accQ : Suffix d'.accQ d.accQ
  quiet : NoDeliver e

theorem Quiet.refl (d : Disp) : Quiet d d [] := ⟨.refl d, .refl _, .nil⟩

theorem Quiet.trans {a b c : Disp} {e e' : List Eff} (h1 : Quiet a b e) (h2 : Quiet b c e') : Quiet a c (e ++ e') :=
  ⟨h1.table.trans h2.table, h2.accQ.trans h1.accQ, h1.quiet.append h2.quiet⟩

/-! ### The helpers change the fields they are about: each result is the argument with those fields replaced -/

theorem random_eq (d : Disp) : d.random = (w16 (d.rnd.headD 0), { d with rnd := d.rnd.tail }) := by
  -- (`d` taken apart: after `cases d.rnd` alone, `{ d with rnd := [] } = d` is not closed by `rfl`)
  obtain ⟨_, _, _, _, _, _, _, _, _, rnd, _, _, _⟩ := d
  cases rnd <;> rfl

theorem setSlots_eq (d : Disp) (addr : Nat) (s : Option (List (Option Connecting))) :
    d.setSlots addr s = { d with connecting := d.connecting.filter (·.1 ≠ addr) ++ (s.map (addr, ·)).toList } := by
  cases s <;> simp [setSlots]

theorem getNextFreeConnId_frame (d : Disp) (addr : Nat) :
    ∃ n, d.getNextFreeConnId addr = { d with nextConnId := n } := by
  unfold getNextFreeConnId
  fun_induction nextFreeConnIdLoop 32768 d addr with
  | case1 | case3 => exact ⟨_, rfl⟩
  | case2 _ _ _ _ ih => exact ih

theorem tryNextAcceptor_eq (d : Disp) :
    d.tryNextAcceptor = match d.accQ with
      | [] => (none, d)
      | a :: q => (some a, { d with nextAcceptor := none, accChan := q }) := by
  unfold tryNextAcceptor accQ
  cases hn : d.nextAcceptor with
  | some b => rfl
  | none =>
    cases hc : d.accChan with
    | nil => rfl
    | cons a q => rfl

theorem tryNextAcceptor_some {d d1 : Disp} {a : Acceptor} (h : d.tryNextAcceptor = (some a, d1)) :
    ∃ q, d1 = { d with nextAcceptor := none, accChan := q } ∧ d.accQ = a :: q := by
  rw [tryNextAcceptor_eq] at h
  cases hq : d.accQ with
  | nil => rw [hq] at h; cases h
  | cons b q => rw [hq] at h; cases h; exact ⟨q, rfl, rfl⟩

theorem matchSynWithAccept_matched (d : Disp) (s : Syn) (a : Acceptor) (hf : d.streamsFull = false)
    (hk : d.hasKey ⟨s.remote, w16 (s.h.connId + 1)⟩ = false) (ha : d.deadAcc.contains a.id = false) :
    ∃ d', d.matchSynWithAccept s a =
      (.matched, d', [.accepted a.id ⟨s.remote, w16 (s.h.connId + 1)⟩ s.remote d.nextInst]) := by
  simp only [matchSynWithAccept, random_eq, hf, hk, ha, Bool.false_eq_true, if_false]
  exact ⟨_, rfl⟩

/-- One pairing attempt, as both loops make it. (`generalizing := false`: `hm` mentions `res`, and is to stay out of the
`match`.) -/
theorem attempt_spec {d d1 d2 : Disp} {a : Acceptor} {s : Syn} {res : MatchRes} {e : List Eff}
    (hta : d.tryNextAcceptor = (some a, d1)) (hm : d1.matchSynWithAccept s a = (res, d2, e)) :
    ∃ q r t i, d.accQ = a :: q ∧
      d2 = { d with nextAcceptor := none, accChan := q, rnd := r, streams := t, nextInst := i } ∧
      Extends d d2 ∧ NoDeliver e ∧
      match (generalizing := false) res with
      | .matched => True
      | .full s' a' => s' = s ∧ a' = a
      | .synInvalid a' => a' = a
      | .receiverDead s' => s' = s := by
  obtain ⟨q, h1, hq⟩ := tryNextAcceptor_some hta
  refine ⟨q, ?_⟩
  revert hm
  fun_cases matchSynWithAccept d1 s a
  · rintro ⟨⟩; subst h1; exact ⟨_, _, _, hq, rfl, .refl d, .nil, rfl, rfl⟩   -- table full
  · rintro ⟨⟩; subst h1; exact ⟨_, _, _, hq, rfl, .refl d, .nil, rfl⟩        -- key in use: SYN invalid
  · next hr _ =>                                                             -- the accept call is gone
    rw [random_eq] at hr; cases hr
    rintro ⟨⟩; subst h1; exact ⟨_, _, _, hq, rfl, .refl d, .nil, rfl⟩
  · next hf _ hk _ _ hr _ _ _ hi =>                                          -- matched: the stream is inserted
    rw [random_eq] at hr; cases hr; cases hi
    rintro ⟨⟩; subst h1
    exact ⟨_, _, _, hq, rfl, .insertKey (d := d) (eq_false_of_ne_true hf) (eq_false_of_ne_true hk), .single rfl, trivial⟩

theorem cleanupLoop_spec (fuel : Nat) (d : Disp) (effs : List Eff) :
    ∃ more, (cleanupLoop fuel d effs).2 = effs ++ more ∧ Quiet d (cleanupLoop fuel d effs).1 more ∧
      Suffix (cleanupLoop fuel d effs).1.syns d.syns := by
  -- one iteration `d → b` reporting `e`, then the rest of the loop
  have step {d b : Disp} {effs e : List Eff} {R : Disp × List Eff}
      (ih : ∃ more, R.2 = effs ++ e ++ more ∧ Quiet b R.1 more ∧ Suffix R.1.syns b.syns)
      (h : Quiet d b e) (hs : Suffix b.syns d.syns) :
      ∃ more, R.2 = effs ++ more ∧ Quiet d R.1 more ∧ Suffix R.1.syns d.syns :=
    let ⟨more, h1, h2, h3⟩ := ih
    ⟨e ++ more, by rw [h1, List.append_assoc], h.trans h2, h3.trans hs⟩
  fun_induction cleanupLoop fuel d effs with
  -- out of fuel; no cached SYN; no acceptor waiting
  | case1 d effs | case2 _ d effs | case3 _ d effs => exact ⟨[], by simp, .refl d, .refl _⟩
  | case4 fuel d effs s rest hs d0 a d1 hta d2 e hm ih =>           -- matched: both leave
    obtain ⟨q, r, t, i, hq, rfl, hx, hn, -⟩ := attempt_spec hta hm
    exact step ih ⟨hx, .of_cons hq, hn⟩ (.of_cons hs)
  | case5 fuel d effs s rest hs d0 a d1 hta a' d2 e hm ih =>        -- SYN invalid: it leaves, the acceptor is cached again
    obtain ⟨q, r, t, i, hq, rfl, hx, hn, rfl⟩ := attempt_spec hta hm
    exact step ih ⟨hx, .of_eq hq, hn⟩ (.of_cons hs)
  | case6 fuel d effs s rest hs d0 a d1 hta s' d2 e hm ih =>        -- accept call gone: it leaves, the SYN goes back to the front
    obtain ⟨q, r, t, i, hq, rfl, hx, hn, rfl⟩ := attempt_spec hta hm
    exact step ih ⟨hx, .of_cons hq, hn⟩ (.of_eq hs)
  | case7 fuel d effs s rest hs d0 a d1 hta s' a' d2 e hm =>        -- table full: both put back, stop
    obtain ⟨q, r, t, i, hq, rfl, hx, hn, rfl, rfl⟩ := attempt_spec hta hm
    exact ⟨e, rfl, ⟨hx, .of_eq hq, hn⟩, .of_eq hs⟩

theorem cleanupAcceptQueue_spec (d : Disp) :
    Quiet d d.cleanupAcceptQueue.1 d.cleanupAcceptQueue.2 ∧ Suffix d.cleanupAcceptQueue.1.syns d.syns := by
  unfold cleanupAcceptQueue
  split
  · exact ⟨.refl d, .refl _⟩
  · obtain ⟨more, h1, h2⟩ := cleanupLoop_spec (d.syns.length + d.acceptorsWaiting + 1) d []
    rwa [h1]

theorem onSynLoop_spec (fuel : Nat) (d : Disp) (s : Syn) (effs : List Eff) :
    (∃ more, (onSynLoop fuel d s effs).2.2 = effs ++ more ∧ Quiet d (onSynLoop fuel d s effs).1 more) ∧
      (onSynLoop fuel d s effs).1.syns = d.syns ∧ ∀ s', (onSynLoop fuel d s effs).2.1 = some s' → s' = s := by
  fun_induction onSynLoop fuel d s effs with
  | case1 d s effs | case2 _ d s effs =>                            -- out of fuel; no acceptor waiting
    exact ⟨⟨[], by simp, .refl d⟩, rfl, fun _ h => (Option.some.inj h).symm⟩
  | case3 fuel d s effs a d1 hta d2 e hm =>                         -- matched
    obtain ⟨q, r, t, i, hq, rfl, hx, hn, -⟩ := attempt_spec hta hm
    exact ⟨⟨e, rfl, hx, .of_cons hq, hn⟩, rfl, nofun⟩
  | case4 fuel d s effs a d1 hta a' d2 e hm =>                      -- SYN invalid: dropped, the acceptor is cached again
    obtain ⟨q, r, t, i, hq, rfl, hx, hn, rfl⟩ := attempt_spec hta hm
    exact ⟨⟨e, rfl, hx, .of_eq hq, hn⟩, rfl, nofun⟩
  | case5 fuel d s effs a d1 hta s' d2 e hm ih =>                   -- accept call gone: try the next acceptor
    obtain ⟨q, r, t, i, hq, rfl, hx, hn, rfl⟩ := attempt_spec hta hm
    obtain ⟨⟨more, h1, h2⟩, ih⟩ := ih
    exact ⟨⟨e ++ more, by rw [h1, List.append_assoc], .trans ⟨hx, .of_cons hq, hn⟩ h2⟩, ih⟩
  | case6 fuel d s effs a d1 hta s' a' d2 e hm =>                   -- table full: the SYN is handed back
    obtain ⟨q, r, t, i, hq, rfl, hx, hn, rfl, rfl⟩ := attempt_spec hta hm
    exact ⟨⟨e, rfl, hx, .of_eq hq, hn⟩, rfl, fun _ h => (Option.some.inj h).symm⟩

theorem onSyn_spec (d : Disp) (remote : Nat) (h : Header) :
    Quiet d (d.onSyn remote h).1 (d.onSyn remote h).2 ∧
      ((d.onSyn remote h).1.syns = d.syns ∨
        (d.onSyn remote h).1.syns = d.syns ++ [⟨remote, h⟩] ∧ d.syns.length < ACCEPT_QUEUE_MAX_SYNS) := by
  unfold onSyn
  -- (the scrutinee is generalised first, so that what the loop did, `hl`, is there before the outer `match` is split)
  generalize hr : (if d.syns.isEmpty = true then _ else _ : Disp × Option Syn × List Eff) = r
  have hl : Quiet d r.1 r.2.2 ∧ r.1.syns = d.syns ∧ ∀ s', r.2.1 = some s' → s' = ⟨remote, h⟩ := by
    subst hr
    split
    · obtain ⟨⟨more, h1, h2⟩, h3⟩ := onSynLoop_spec (d.acceptorsWaiting + 1) d ⟨remote, h⟩ []
      exact ⟨by rwa [h1], h3⟩
    · exact ⟨.refl d, rfl, fun _ h => (Option.some.inj h).symm⟩
  obtain ⟨d', o, e⟩ := r
  obtain ⟨hq, hs, hret⟩ := hl
  cases o with
  | none => exact ⟨hq, .inl hs⟩
  | some s' =>
    cases hret s' rfl
    dsimp only
    split
    · next hl => exact ⟨⟨hq.table, hq.accQ, hq.quiet⟩, .inr ⟨by rw [← hs], hs ▸ hl⟩⟩
    · split
      · exact ⟨⟨hq.table, hq.accQ, hq.quiet.append (.single rfl)⟩, .inl hs⟩
      · exact ⟨hq, .inl hs⟩

/-- a SYN-ACK for a key that is not in the table (as `on_recv` has checked) -/
theorem onMaybeConnectAck_spec (d : Disp) (addr : Nat) (h : Header) (hk : d.hasKey ⟨addr, h.connId⟩ = false) :
    Quiet d (d.onMaybeConnectAck addr h).1 (d.onMaybeConnectAck addr h).2 ∧
      (d.onMaybeConnectAck addr h).1.syns = d.syns := by
  fun_cases onMaybeConnectAck d addr h
  case case4 =>               -- the requester is gone: `removeKey` of the key, which is absent
    dsimp +zetaDelta only
    rw [setSlots_eq]
    exact ⟨⟨.removeKey_absent (d := d) hk, .refl _, .nil⟩, rfl⟩
  case case5 hf _ _ _ _ _ _ _ _ _ _ hi =>               -- connected: the stream is inserted
    cases hi
    dsimp +zetaDelta only
    rw [setSlots_eq]
    exact ⟨⟨.insertKey (d := d) (eq_false_of_ne_true hf) hk, .refl _, .single rfl⟩, rfl⟩
  all_goals exact ⟨.refl d, rfl⟩

/-- **What one event does**: a quiet step in which at most one SYN joins the backlog, at the back and while fewer
than 32 wait; or the removal of one key, at the request of its owner (or untagged) or because a datagram for it
found the stream's task gone; or one delivery, to the key the datagram names. -/
inductive Outcome (d : Disp) (ev : Event) : Disp × List Eff → Prop
  | quiet {d' e} : Quiet d d' e →
      (d'.syns = d.syns ∨ ∃ s, d'.syns = d.syns ++ [s] ∧ d.syns.length < ACCEPT_QUEUE_MAX_SYNS) → Outcome d ev (d', e)
  | shutdown (k : Key) (o : Option Nat) : ev = .control (.shutdown k o) → (o = none ∨ d.instOf k = o) →
      Outcome d ev (d.removeKey k, [])
  | dead (k : Key) {bytes h p} : ev = .datagram k.addr bytes → Message.deserialize bytes = some (h, p) →
      h.connId = k.id → (d.instOf k).any d.deadStreams.contains = true → Outcome d ev (d.removeKey k, [])
  | delivered (k : Key) {bytes h p} : ev = .datagram k.addr bytes → Message.deserialize bytes = some (h, p) →
      k.id = h.connId → d.hasKey k = true → Outcome d ev (d, [.delivered k h])

theorem onControl_outcome (d : Disp) (c : Ctl) : Outcome d (.control c) (d.onControl c) := by
  -- connect requests and their cancellation touch only the connecting slots, `rnd` and `nextConnId`
  have frame {cn r n e} (he : NoDeliver e) :
      Outcome d (.control c) ({ d with connecting := cn, rnd := r, nextConnId := n }, e) :=
    .quiet ⟨.refl d, .refl _, he⟩ (.inl rfl)
  cases c with
  | shutdown k o =>
    simp only [onControl]
    split
    · exact .shutdown k _ rfl (.inl rfl)
    split
    · next hi => exact .shutdown k _ rfl (.inr hi)
    · exact frame .nil
  | connectDropped addr token =>
    simp only [onControl, setSlots_eq]
    split
    · exact frame .nil
    split <;> exact frame .nil
  | connectRequest addr token =>
    obtain ⟨n, hn⟩ := getNextFreeConnId_frame d addr
    simp only [onControl, hn, random_eq, setSlots_eq]
    split
    · exact frame (.single rfl)
    split
    · exact frame (.single rfl)
    · exact frame (.single rfl)
    split
    · exact frame (.single rfl)
    · exact frame ((NoDeliver.single rfl).append (.single rfl))

theorem handle_outcome (d : Disp) (ev : Event) : Outcome d ev (d.handle ev) := by
  have idle {ev} : Outcome d ev (d, []) := .quiet (.refl d) (.inl rfl)
  fun_cases handle d ev
  · exact idle                                                  -- idle wake-up
  · next hn hc =>                                               -- an acceptor is cached: it stays the head of `accQ`
    exact .quiet ⟨.refl d, .of_eq (by rw [accQ, hn, hc]; rfl), .nil⟩ (.inl rfl)
  · exact idle                                                  -- acceptor event with one cached, or none waiting
  · exact onControl_outcome d _
  · exact idle                                                  -- the datagram does not parse
  next addr _ h _ hdes =>
  fun_cases onRecv d addr h
  · next hdead => exact .dead _ rfl hdes rfl hdead              -- known key, task gone
  · next hk _ => exact .delivered _ rfl hdes rfl hk             -- known key
  · next hk _ =>                                                -- unknown key, ST_STATE
    have := onMaybeConnectAck_spec d addr h (eq_false_of_ne_true hk)
    exact .quiet this.1 (.inl this.2)
  · obtain ⟨h1, h2⟩ := onSyn_spec d addr h                      -- unknown key, ST_SYN
    exact .quiet h1 (h2.imp_right fun h => ⟨_, h⟩)
  · exact idle                                                  -- unknown key, any other type: dropped

theorem runOnce_outcome (d : Disp) (ev : Event) :
    ∃ R, Outcome d.cleanupAcceptQueue.1 ev R ∧ d.runOnce ev = (R.1, d.cleanupAcceptQueue.2 ++ R.2) :=
  ⟨_, handle_outcome _ ev, rfl⟩

end UtpVerif.Model.Disp
