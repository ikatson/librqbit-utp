import UtpVerif.Model.Rx
/-!
The receive side (`Model/Rx.lean`). The reassembly queue changes by two
moves that keep `OoqInv`: `store` (`add_remove`) and `popFront` (`send_front_if_fits`). The loop of `flush` is iterated
`handOver`, so whatever one hand-over keeps, `flush` keeps (`flush_preserves`), and so does `UserRx::add_remove`, which is a
store followed by at most one `flush` (`rx_addRemove_eq`). `poll_read` is `readLoop` followed by the answer `readRes`.
-/
namespace UtpVerif.Lemmas.Rx
open UtpVerif.Model UtpVerif.Model.Ooq

def occupied (l : List OoqMsg) : Nat := (l.filter (fun m => !m.isDefault)).length
def bytesOf (l : List OoqMsg) : Nat := (l.map OoqMsg.lenBytes).sum

/-- Structural invariant of `OutOfOrderQueue`. -/
structure OoqInv (q : Ooq) : Prop where
  cap_pos : 0 < q.capacity
  data_len : q.data.length = q.capacity
  len_eq : q.len = occupied q.data
  bytes_eq : q.lenBytes = bytesOf q.data
  front_le : q.filledFront ≤ q.capacity
  front_full : ∀ k, k < q.filledFront → ∀ m, q.data[k]? = some m → m.isDefault = false
  hole : ∀ m, q.data[q.filledFront]? = some m → m.isDefault = true

theorem occupied_cons (m : OoqMsg) (l : List OoqMsg) :
    occupied (m :: l) = (if m.isDefault then 0 else 1) + occupied l := by
  cases h : m.isDefault <;> simp [occupied, h, Nat.add_comm]

theorem occupied_append (a b : List OoqMsg) : occupied (a ++ b) = occupied a + occupied b := by
  simp [occupied, List.filter_append]

theorem bytesOf_cons (m : OoqMsg) (l : List OoqMsg) : bytesOf (m :: l) = m.lenBytes + bytesOf l := rfl

theorem bytesOf_append (a b : List OoqMsg) : bytesOf (a ++ b) = bytesOf a + bytesOf b := by
  simp [bytesOf, List.sum_append]

theorem lenBytes_of_isDefault {m : OoqMsg} (h : m.isDefault = true) : m.lenBytes = 0 := by
  cases m with
  | payload b => simpa [OoqMsg.isDefault, OoqMsg.lenBytes] using h
  | eof => cases h

theorem occupied_le_length (l : List OoqMsg) : occupied l ≤ l.length := by
  unfold occupied; exact List.length_filter_le _ _

theorem set_counts (l : List OoqMsg) (i : Nat) (m old : OoqMsg) (hi : l[i]? = some old) :
    occupied (l.set i m) + (if old.isDefault then 0 else 1) = occupied l + (if m.isDefault then 0 else 1) ∧
    bytesOf (l.set i m) + old.lenBytes = bytesOf l + m.lenBytes := by
  obtain ⟨hlt, rfl⟩ := List.getElem?_eq_some_iff.1 hi
  have hl : l = l.take i ++ l[i] :: l.drop (i + 1) := by simp
  rw [List.set_eq_take_append_cons_drop, if_pos hlt]
  conv => enter [1, 2, 1]; rw [hl]
  conv => enter [2, 2, 1]; rw [hl]
  simp only [occupied_append, occupied_cons, bytesOf_append, bytesOf_cons]
  omega

theorem new_inv (c : Nat) (h : 0 < c) : OoqInv (Ooq.new c) ∧ ∀ m ∈ (Ooq.new c).data, m.isDefault = true := by
  have hd : ∀ m ∈ List.replicate c OoqMsg.default, m.isDefault = true := fun m hm => (List.mem_replicate.1 hm).2 ▸ rfl
  refine ⟨⟨h, List.length_replicate, ?_, ?_, Nat.zero_le _, fun _ hk => absurd hk (Nat.not_lt_zero _),
    fun m hm => hd m (List.mem_of_getElem? hm)⟩, hd⟩
  · show 0 = occupied (List.replicate c OoqMsg.default)
    unfold occupied; rw [List.filter_replicate]; rfl
  · show 0 = bytesOf (List.replicate c OoqMsg.default)
    unfold bytesOf; rw [List.map_replicate, List.sum_replicate_nat]; rfl

theorem build_ooq (maxRx mss : Nat) :
    OoqInv (Rx.build maxRx mss).ooq ∧ ∀ m ∈ (Rx.build maxRx mss).ooq.data, m.isDefault = true :=
  new_inv _ (by
    split
    · decide
    · exact Nat.pos_of_ne_zero ‹_›)

theorem contiguous_fst (l : List OoqMsg) : (contiguous l).1 = l.findIdx (·.isDefault) := by
  induction l with
  | nil => rfl
  | cons a t ih =>
    rw [contiguous, List.findIdx_cons]
    cases a.isDefault
    · exact congrArg (· + 1) ih
    · rfl

theorem contiguous_spec (l : List OoqMsg) :
    (contiguous l).1 ≤ l.length ∧
    (∀ k, k < (contiguous l).1 → ∀ m, l[k]? = some m → m.isDefault = false) ∧
    (∀ m, l[(contiguous l).1]? = some m → m.isDefault = true) := by
  rw [contiguous_fst]
  refine ⟨List.findIdx_le_length, fun k hk m hm => ?_, fun m hm => List.findIdx_of_getElem?_eq_some hm⟩
  obtain ⟨hlt, rfl⟩ := List.getElem?_eq_some_iff.1 hm
  exact List.not_of_lt_findIdx hk

theorem classify_spec (q : Ooq) (ty : Nat) (payload : List Nat) (off : Nat) :
    match q.classify ty payload off with
    | .store eff msg =>
        eff = off + q.filledFront ∧ q.isFull = false ∧ msg.isDefault = false ∧
        (∃ old, q.data[eff]? = some old ∧ old.isDefault = true) ∧
        msg = (if ty = Gen.TYPE_ST_DATA then OoqMsg.payload payload else OoqMsg.eof)
    | .bugMissingSlot => False
    | .bugInvalidMessage => ty ≠ Gen.TYPE_ST_DATA ∧ ty ≠ Gen.TYPE_ST_FIN
    | .alreadyPresent => ∃ slot, q.data[off + q.filledFront]? = some slot ∧ slot.isDefault = false
    | .errZeroPayload => ty = Gen.TYPE_ST_DATA ∧ payload = []
    | .unavailable => q.isFull = true ∨ q.data.length ≤ off + q.filledFront := by
  unfold Ooq.classify
  by_cases h1 : q.isFull = true
  · rw [if_pos h1]; exact Or.inl h1
  rw [if_neg h1]
  by_cases h2 : off + q.filledFront ≥ q.data.length
  · rw [if_pos h2]; exact Or.inr h2
  rw [if_neg h2]
  by_cases h3 : ty = Gen.TYPE_ST_DATA ∧ payload.isEmpty = true
  · rw [if_pos h3]; exact ⟨h3.1, by simpa using h3.2⟩
  rw [if_neg h3]
  by_cases h4 : ty ≠ Gen.TYPE_ST_DATA ∧ ty ≠ Gen.TYPE_ST_FIN
  · rw [if_pos h4]; exact h4
  rw [if_neg h4]
  cases hs : q.data[off + q.filledFront]? with
  | none => exact h2 (List.getElem?_eq_none_iff.1 hs)
  | some slot =>
    cases hd : slot.isDefault with
    | false => simp only [hd, Bool.not_false, if_true]; exact ⟨slot, rfl, hd⟩
    | true =>
      simp only [hd, Bool.not_true, Bool.false_eq_true, if_false]
      refine ⟨trivial, by simpa using h1, ?_, ⟨slot, hs, hd⟩, trivial⟩
      split
      · rename_i hty; simpa [OoqMsg.isDefault, hty] using h3
      · rfl

@[simp] theorem store_data (q : Ooq) (eff : Nat) (msg : OoqMsg) : (q.store eff msg).1.data = q.data.set eff msg := rfl

theorem store_inv (q : Ooq) (eff : Nat) (msg old : OoqMsg) (h : OoqInv q)
    (hge : q.filledFront ≤ eff) (hold : q.data[eff]? = some old) (holdd : old.isDefault = true)
    (hmsg : msg.isDefault = false) : OoqInv (q.store eff msg).1 := by
  obtain ⟨c1, c2, c3⟩ := contiguous_spec ((q.data.set eff msg).drop q.filledFront)
  obtain ⟨ho, hb⟩ := set_counts q.data eff msg old hold
  rw [holdd, hmsg] at ho
  rw [lenBytes_of_isDefault holdd] at hb
  rw [List.length_drop, List.length_set, h.data_len] at c1
  refine ⟨h.cap_pos, List.length_set.trans h.data_len, ?_, ?_, Nat.add_le_of_le_sub' h.front_le c1, ?_, ?_⟩
  · show q.len + 1 = _; rw [h.len_eq]; simpa using ho.symm
  · show q.lenBytes + _ = _; rw [h.bytes_eq]; simpa using hb.symm
  · intro k hk m hm
    by_cases hkf : k < q.filledFront
    · rw [store_data, List.getElem?_set_ne (Nat.ne_of_gt (Nat.lt_of_lt_of_le hkf hge))] at hm
      exact h.front_full k hkf m hm
    · have hle := Nat.le_of_not_lt hkf
      refine c2 (k - q.filledFront) (Nat.sub_lt_left_of_lt_add hle hk) m ?_
      rwa [List.getElem?_drop, Nat.add_sub_cancel' hle]
  · intro m hm
    exact c3 m (by rwa [List.getElem?_drop])

theorem addRemove_cases (q : Ooq) (ty : Nat) (payload : List Nat) (off : Nat) :
    (q.addRemove ty payload off =
      let s := q.store (off + q.filledFront) (if ty = Gen.TYPE_ST_DATA then OoqMsg.payload payload else OoqMsg.eof)
      (s.1, .consumed s.2.1 s.2.2)) ∨
    (q.addRemove ty payload off).1 = q := by
  have hs := classify_spec q ty payload off
  unfold Ooq.addRemove
  cases hc : q.classify ty payload off with
  | store eff msg =>
    rw [hc] at hs
    obtain ⟨rfl, _, _, _, rfl⟩ := hs
    exact Or.inl rfl
  | _ => exact Or.inr rfl

theorem addRemove_front (q : Ooq) (ty : Nat) (payload : List Nat) (off : Nat) :
    (q.addRemove ty payload off).1.filledFront =
      q.filledFront + (match (q.addRemove ty payload off).2 with | .consumed n _ => n | _ => 0) := by
  unfold Ooq.addRemove
  cases q.classify ty payload off <;> rfl

theorem addRemove_inv (q : Ooq) (ty : Nat) (payload : List Nat) (off : Nat) (h : OoqInv q) :
    OoqInv (q.addRemove ty payload off).1 ∧ (q.addRemove ty payload off).2 ≠ .bugMissingSlot := by
  have hs := classify_spec q ty payload off
  unfold Ooq.addRemove
  cases hc : q.classify ty payload off with
  | store eff msg =>
    rw [hc] at hs
    obtain ⟨rfl, _, hmsg, ⟨old, hold, holdd⟩, _⟩ := hs
    exact ⟨store_inv q _ msg old h (Nat.le_add_left _ _) hold holdd hmsg, fun h => by cases h⟩
  | bugMissingSlot => rw [hc] at hs; exact hs.elim
  | _ => exact ⟨h, fun h => by cases h⟩

/-- The queue after its front slot (holding `m`) has been handed over. -/
def popFront (q : Ooq) (m : OoqMsg) : Ooq :=
  { q with data := q.data.tail ++ [OoqMsg.default], filledFront := q.filledFront - 1, len := q.len - 1,
           lenBytes := q.lenBytes - m.lenBytes }

theorem sendFrontIfFits_some {q q' : Ooq} {win : Nat} {acc : Bool} {m : OoqMsg}
    (h : q.sendFrontIfFits win acc = (q', some m)) :
    0 < q.filledFront ∧ q.data.head? = some m ∧ m.lenBytes ≤ win ∧ acc = true ∧ q' = popFront q m := by
  unfold Ooq.sendFrontIfFits at h
  split at h; · cases h
  split at h; · cases h
  split at h; · cases h
  split at h; · cases h
  rename_i hff _ m0 rest hd hwin hacc
  cases h
  exact ⟨Nat.pos_of_ne_zero hff, by rw [hd]; rfl, Nat.le_of_not_lt hwin, by simpa using hacc, by simp [popFront, hd]⟩

theorem popFront_slot {q : Ooq} {m m' : OoqMsg} {i : Nat} (h : (popFront q m).data[i]? = some m') :
    q.data[i + 1]? = some m' ∨ m' = OoqMsg.default := by
  rw [show (popFront q m).data = q.data.tail ++ [OoqMsg.default] from rfl, List.getElem?_append] at h
  split at h
  · rw [List.getElem?_tail] at h; exact Or.inl h
  · exact Or.inr (List.mem_singleton.1 (List.mem_of_getElem? h))

theorem popFront_inv {q : Ooq} {m : OoqMsg} (h : OoqInv q) (hff : 0 < q.filledFront) (hm : q.data.head? = some m) :
    m.isDefault = false ∧ m.lenBytes ≤ q.lenBytes ∧ OoqInv (popFront q m) := by
  obtain ⟨rest, hd⟩ := List.head?_eq_some_iff.1 hm
  have hnd : m.isDefault = false := h.front_full 0 hff m (by rw [hd]; rfl)
  have hl := h.data_len; have hfl := h.front_le; have hb := h.bytes_eq; have hn := h.len_eq
  rw [hd, List.length_cons] at hl
  rw [hd, bytesOf_cons] at hb
  rw [hd, occupied_cons, hnd, if_neg Bool.false_ne_true] at hn
  have hdata : (popFront q m).data = rest ++ [OoqMsg.default] := by rw [popFront, hd]; rfl
  refine ⟨hnd, hb ▸ Nat.le_add_right _ _, h.cap_pos, ?_, ?_, ?_, Nat.le_trans (Nat.sub_le _ _) hfl, ?_, ?_⟩
  · rw [hdata, List.length_append]; exact hl
  · rw [hdata, occupied_append]; show q.len - 1 = _; rw [hn]; exact Nat.add_sub_cancel_left ..
  · rw [hdata, bytesOf_append]; show q.lenBytes - m.lenBytes = _; rw [hb]; exact Nat.add_sub_cancel_left ..
  · intro k hk m' hm'
    have hk' : k < q.filledFront - 1 := hk
    rw [hdata, List.getElem?_append_left (by omega)] at hm'
    exact h.front_full (k + 1) (by omega) m' (by rw [hd]; exact hm')
  · intro m' hm'
    rcases popFront_slot hm' with h1 | rfl
    · exact h.hole m' (by rwa [show (popFront q m).filledFront = q.filledFront - 1 from rfl, Nat.sub_add_cancel hff] at h1)
    · rfl

/-- One turn of the loop of `flush`: the front slot `m` leaves reassembly and joins the reader's queue. -/
def handOver (r : Rx) (m : OoqMsg) : Rx :=
  { r with ooq := popFront r.ooq m, queue := r.queue ++ [Rx.toUser m], qLenBytes := r.qLenBytes + m.lenBytes }

/-- **Whatever one hand-over keeps, the loop of `flush` keeps.** -/
theorem flushLoop_preserves {I : Rx → Nat → Prop}
    (step : ∀ r win m, I r win → 0 < r.ooq.filledFront → r.ooq.data.head? = some m → m.lenBytes ≤ win →
      r.readerDropped = false → m.lenBytes ≤ r.qCapacity - r.qLenBytes → I (handOver r m) (win - m.lenBytes))
    {fuel : Nat} {r : Rx} {win fl pk : Nat} {r' : Rx} {win' fl' pk' : Nat}
    (h : Rx.flushLoop fuel r win fl pk = some (r', win', fl', pk')) (h0 : I r win) : I r' win' := by
  induction fuel generalizing r win fl pk with
  | zero => cases h; exact h0
  | succ fuel ih =>
    unfold Rx.flushLoop at h
    cases hs : r.ooq.sendFrontIfFits win (!r.readerDropped) with
    | mk q' om =>
      rw [hs] at h
      cases om with
      | none => cases h; exact h0
      | some m =>
        obtain ⟨hff, hm, hw, hacc, rfl⟩ := sendFrontIfFits_some hs
        simp only at h
        split at h
        · cases h
        · exact ih h (step r win m h0 hff hm hw (by simpa using hacc) (Nat.le_of_not_lt ‹_›))

/-- the `unwrap` in the loop of `flush` -/
theorem flushLoop_isSome (fuel : Nat) (r : Rx) (win fl pk : Nat) (hw : win + r.qLenBytes ≤ r.qCapacity) :
    (Rx.flushLoop fuel r win fl pk).isSome = true := by
  induction fuel generalizing r win fl pk with
  | zero => rfl
  | succ fuel ih =>
    unfold Rx.flushLoop
    cases hs : r.ooq.sendFrontIfFits win (!r.readerDropped) with
    | mk q' om =>
      cases om with
      | none => rfl
      | some m =>
        have hm := (sendFrontIfFits_some hs).2.2.1
        simp only
        rw [if_neg (by omega)]
        exact ih _ _ _ _ (by simp only; omega)

theorem flush_eq (r : Rx) :
    r.flush =
      (Rx.flushLoop (r.ooq.filledFront + 1)
        { r with dispatcherWaker := decide (r.queueWindow - r.ooq.filledFrontBytes < r.maxIncomingPayload) || r.dispatcherWaker }
        r.queueWindow 0 0).map fun x =>
          ({ x.1 with readerWaker := if x.2.2.2 > 0 ∧ x.1.readerWaker = true then false else x.1.readerWaker,
                      lastRemainingRxWindow := x.2.1 }, x.2.2.1,
            if x.2.2.2 > 0 ∧ x.1.readerWaker = true then [Wake.reader] else []) := by
  unfold Rx.flush
  dsimp only
  -- the two arms of the registration are one record, so that no user has to split on it
  have e : (if r.queueWindow - r.ooq.filledFrontBytes < r.maxIncomingPayload then { r with dispatcherWaker := true } else r) =
      { r with dispatcherWaker := decide (r.queueWindow - r.ooq.filledFrontBytes < r.maxIncomingPayload) || r.dispatcherWaker } := by
    split
    · rename_i h; rw [decide_eq_true h]; rfl
    · rename_i h; rw [decide_eq_false h]; rfl
  rw [e]
  cases Rx.flushLoop _ _ r.queueWindow 0 0 with
  | none => rfl
  | some x => obtain ⟨r2, win, fl, pk⟩ := x; dsimp only [Option.map_some]; split <;> rfl

theorem flush_isSome (r : Rx) (h : r.qLenBytes ≤ r.qCapacity) : r.flush.isSome = true := by
  rw [flush_eq, Option.isSome_map]
  exact flushLoop_isSome _ _ _ _ _ (by show r.qCapacity - r.qLenBytes + r.qLenBytes ≤ r.qCapacity; omega)

/-- **Whatever one hand-over keeps, `flush` keeps**: what `flush` returns differs from where its loop ended only in the
reader's waker and the remembered window. -/
theorem flush_preserves {I : Rx → Nat → Prop}
    (step : ∀ r win m, I r win → 0 < r.ooq.filledFront → r.ooq.data.head? = some m → m.lenBytes ≤ win →
      r.readerDropped = false → m.lenBytes ≤ r.qCapacity - r.qLenBytes → I (handOver r m) (win - m.lenBytes))
    {r r' : Rx} {n : Nat} {ws : List Wake} (h : r.flush = some (r', n, ws))
    (h0 : I { r with dispatcherWaker := decide (r.queueWindow - r.ooq.filledFrontBytes < r.maxIncomingPayload) || r.dispatcherWaker }
            r.queueWindow) :
    ∃ r2 win woken, I r2 win ∧ r' = { r2 with readerWaker := woken, lastRemainingRxWindow := win } := by
  rw [flush_eq] at h
  obtain ⟨⟨r2, win, fl, pk⟩, hl, hx⟩ := Option.map_eq_some_iff.1 h
  cases hx
  exact ⟨r2, win, _, flushLoop_preserves step hl h0, rfl⟩

theorem rx_addRemove_eq (r : Rx) (ty : Nat) (payload : List Nat) (off : Nat) :
    r.addRemove ty payload off =
      some ({ r with ooq := (r.ooq.addRemove ty payload off).1 }, (r.ooq.addRemove ty payload off).2, []) ∨
    r.addRemove ty payload off =
      ({ r with ooq := (r.ooq.addRemove ty payload off).1 } : Rx).flush.map
        fun x => (x.1, (r.ooq.addRemove ty payload off).2, x.2.2) := by
  unfold Rx.addRemove
  generalize r.ooq.addRemove ty payload off = p
  obtain ⟨ooq', res⟩ := p
  dsimp only
  split
  · split
    · exact Or.inr (by cases ({ r with ooq := ooq' } : Rx).flush <;> rfl)
    · exact Or.inl rfl
  · exact Or.inl rfl

def Popped (r r' : Rx) : Prop :=
  ∃ popped, r.queue = popped ++ r'.queue ∧ r'.qLenBytes = r.qLenBytes - (popped.map UserMsg.lenBytes).sum

theorem Popped.none {r r' : Rx} (h1 : r'.queue = r.queue) (h2 : r'.qLenBytes = r.qLenBytes) : Popped r r' :=
  ⟨[], by rw [h1]; rfl, by rw [h2]; rfl⟩

theorem Popped.cons {r r1 r' : Rx} {m : UserMsg} (h1 : r.queue = m :: r1.queue)
    (h2 : r1.qLenBytes = r.qLenBytes - m.lenBytes) (h : Popped r1 r') : Popped r r' := by
  obtain ⟨popped, e1, e2⟩ := h
  exact ⟨m :: popped, by rw [h1, e1]; rfl, by rw [e2, h2]; simp only [List.map_cons, List.sum_cons]; omega⟩

/-- The arms of `readLoop`, as `fun_induction` numbers them: 1 out of fuel, 2 buffer full, 3 partially read message
with nothing left (`.bug`), 4 bytes copied from the partially read message, 5 EOF seen before, 6 EOF popped, 7 payload
popped (it becomes the partially read message), 8 error popped, 9 queue empty and connection closed, 10 queue empty:
reader's waker registered. -/
theorem readLoop_frame (fuel : Nat) (r : Rx) (room : Nat) (out : List Nat) :
    Popped r (Rx.readLoop fuel r room out).1 ∧ (∃ bytes, (Rx.readLoop fuel r room out).2.1 = out ++ bytes) ∧
    (Rx.readLoop fuel r room out).1.ooq = r.ooq ∧ (Rx.readLoop fuel r room out).1.qCapacity = r.qCapacity ∧
    (Rx.readLoop fuel r room out).1.lastRemainingRxWindow = r.lastRemainingRxWindow ∧
    (Rx.readLoop fuel r room out).1.dispatcherWaker = r.dispatcherWaker := by
  have nil : ∀ l : List Nat, ∃ bytes, l = l ++ bytes := fun l => ⟨[], (List.append_nil l).symm⟩
  fun_induction Rx.readLoop fuel r room out with
  | case4 fuel r room out _ payload off _ rest _ n off' r' ih =>
    obtain ⟨h1, ⟨bytes, h2⟩, h3⟩ := ih
    exact ⟨h1, ⟨rest.take n ++ bytes, by rw [h2, List.append_assoc]⟩, h3⟩
  | case7 fuel r room out _ _ _ q' p hq r' ih => exact ⟨.cons hq rfl ih.1, ih.2⟩
  | case6 fuel r room out _ _ _ q' hq r' | case8 fuel r room out _ _ _ q' msg hq r' =>
    exact ⟨.cons hq rfl (.none rfl rfl), nil _, rfl, rfl, rfl, rfl⟩
  | _ => exact ⟨.none rfl rfl, nil _, rfl, rfl, rfl, rfl⟩           -- every other exit leaves the queue alone

theorem readLoop_out_le (fuel : Nat) (r : Rx) (room : Nat) (out : List Nat) :
    out.length ≤ (Rx.readLoop fuel r room out).2.1.length := by
  obtain ⟨_, ⟨bytes, h⟩, _⟩ := readLoop_frame fuel r room out
  rw [h, List.length_append]; exact Nat.le_add_right _ _

def readRes (out : List Nat) (ex : Rx.LoopExit) (eof : Bool) : ReadRes :=
  match ex with
  | .err msg => .err msg
  | .bug => .bugEmptyPayload
  | _ => if out.length > 0 then .data out else if eof then .eof
         else if ex = .deadDispatcher then .err "dispatcher dead" else .pending

def isData : ReadRes → Bool
  | .data _ => true
  | _ => false

theorem pollRead_eq (r : Rx) (n : Nat) :
    r.pollRead n =
      let l := Rx.readLoop (2 * (r.queue.length + 2) + 1) r n []
      let res := readRes l.2.1 l.2.2 l.1.isEof
      ({ l.1 with dispatcherWaker := l.1.dispatcherWaker && !isData res }, res,
        if isData res && l.1.dispatcherWaker then [Wake.dispatcher] else []) := by
  unfold Rx.pollRead
  generalize Rx.readLoop (2 * (r.queue.length + 2) + 1) r n [] = l
  -- (`l.1` taken apart so that `dw`, `eof` are variables and `rfl` computes)
  obtain ⟨⟨_, _, _, _, _, _, _, _, dw, _, _, eof⟩, out, ex⟩ := l
  cases ex <;> cases out <;> cases dw <;> cases eof <;> rfl

theorem readRes_eq_pending_iff (out : List Nat) (ex : Rx.LoopExit) (eof : Bool) :
    readRes out ex eof = .pending ↔ out = [] ∧ eof = false ∧ ex = .done := by
  cases ex <;> cases out <;> cases eof <;> simp [readRes]

theorem readRes_eq_eof_iff (out : List Nat) (ex : Rx.LoopExit) (eof : Bool) :
    readRes out ex eof = .eof ↔ out = [] ∧ eof = true ∧ (ex = .done ∨ ex = .deadDispatcher) := by
  cases ex <;> cases out <;> cases eof <;> simp [readRes]

theorem takeWhile_lt_eq_filter {l : List Nat} (h : l.Pairwise (· < ·)) (B : Nat) :
    l.takeWhile (· < B) = l.filter (· < B) := by
  induction l with
  | nil => rfl
  | cons a t ih =>
    rw [List.pairwise_cons] at h
    rw [List.takeWhile_cons, List.filter_cons]
    split
    · rw [ih h.2]
    · rename_i hb
      refine (List.filter_eq_nil_iff.2 fun x hx => ?_).symm
      have := h.1 x hx
      simp only [decide_eq_true_eq] at hb ⊢; omega

/-- what `selective_ack` hands to `SelectiveAck::new`, cut at `B` -/
theorem mem_takeWhile_occupied (l : List OoqMsg) (B i : Nat) :
    i ∈ ((l.zipIdx.filter (fun p => !p.1.isDefault)).map (·.2)).takeWhile (· < B) ↔
      i < B ∧ ∃ m, l[i]? = some m ∧ m.isDefault = false := by
  rw [takeWhile_lt_eq_filter]
  · simp only [List.mem_filter, List.mem_map, List.mem_zipIdx_iff_getElem?, decide_eq_true_eq, Prod.exists,
      Bool.not_eq_true']
    constructor
    · rintro ⟨⟨m, j, ⟨hm, hd⟩, rfl⟩, hB⟩; exact ⟨hB, m, hm, hd⟩
    · rintro ⟨hB, m, hm, hd⟩; exact ⟨⟨m, i, ⟨hm, hd⟩, rfl⟩, hB⟩
  · refine List.Pairwise.sublist ?_ (List.pairwise_lt_range' (s := 0) (n := l.length))
    rw [← List.zipIdx_map_snd 0 l]
    exact List.filter_sublist.map _

end UtpVerif.Lemmas.Rx
