import UtpVerif.Model.VSock
import UtpVerif.Lemmas.Wire
import UtpVerif.Lemmas.TxRing
/-! What each sending primitive of `Model/VSock.lean` does: for a call that returned (`… = .ok …`) the result as an
explicit term of the arguments, so that a property is read off the term; for the recovery loop and the
first-transmission loop, the chain of `send_data!` calls they amount to (`Run`). Before them, what the properties
share about timers (`Timer::arm`, `next_timer_to_poll`). -/
namespace UtpVerif.Lemmas.VSock
open UtpVerif.Model UtpVerif.Model.VSock UtpVerif.Gen

theorem arm_restart (t : Timer) (now delay : Nat) : Timer.arm t now delay true = some (now + delay) := by
  cases t <;> rfl

theorem arm_keep (t : Timer) (now delay : Nat) :
    ∃ d, Timer.arm t now delay false = some d ∧ d ≤ now + delay ∧ ∀ e, t = some e → d ≤ e := by
  cases t with
  | none => exact ⟨_, rfl, Nat.le_refl _, fun _ h => nomatch h⟩
  | some e => exact ⟨_, rfl, Nat.min_le_right _ _, fun _ h => by cases h; exact Nat.min_le_left _ _⟩

theorem arm_isSome (t : Timer) (now delay : Nat) (restart : Bool) : (Timer.arm t now delay restart).isSome := by
  cases t <;> cases restart <;> rfl

theorem minFold_le {d : Nat} (l : List Nat) (acc : Option Nat) (h : d ∈ l ∨ ∃ a, acc = some a ∧ a ≤ d) :
    ∃ t, l.foldl (fun acc t => match acc with | none => some t | some a => some (min a t)) acc = some t ∧ t ≤ d := by
  induction l generalizing acc with
  | nil => exact h.resolve_left List.not_mem_nil
  | cons x xs ih =>
    apply ih
    rcases h with h | ⟨a, rfl, ha⟩
    · rcases List.mem_cons.mp h with rfl | h
      · right; cases acc with
        | none => exact ⟨d, rfl, Nat.le_refl _⟩
        | some a => exact ⟨min a d, rfl, Nat.min_le_right _ _⟩
      · left; exact h
    · right; exact ⟨min a x, rfl, by omega⟩

theorem nextTimerToPoll_le (v : VSock) (hp : v.transportPending = false) (d : Nat)
    (hd : some d ∈ [v.timers.ackDelay, v.timers.retransmit, v.timers.inactivity, v.timers.pipeExpiry,
                    v.timers.synAckResend]) :
    ∃ t, v.nextTimerToPoll.2 = some t ∧ t ≤ d := by
  unfold nextTimerToPoll
  rw [if_neg (by simp [hp])]
  exact minFold_le _ none (Or.inl (List.mem_filterMap.mpr ⟨some d, hd, rfl⟩))

theorem sendControlPacket_ok {v : VSock} {c : Ctx} {h : Header} {v' : VSock} {c' : Ctx} {b : Bool}
    (hs : v.sendControlPacket c h = .ok (v', c', b)) :
    (b = true ∧ v.transportPending = false ∧ ∃ d, h.serialize (v.ss.maxSs + UTP_HEADER) = some d ∧
      v' = v.onPacketSent h ∧ c' = { c with sends := c.sends + 1, out := c.out ++ [d] }) ∨
    (b = false ∧ (v' = v ∧ c' = c ∨ v' = { v with transportPending := true } ∧ c' = { c with sends := c.sends + 1 })) := by
  unfold sendControlPacket at hs
  by_cases hp : v.transportPending = true
  · rw [if_pos hp] at hs; cases hs; exact .inr ⟨rfl, .inl ⟨rfl, rfl⟩⟩
  rw [if_neg hp] at hs
  split at hs
  · cases hs
  rename_i d hser
  cases ho : c.transport.outcome c.sends d.length <;> simp only [transportSend, ho] at hs <;> cases hs
  · exact .inl ⟨rfl, eq_false_of_ne_true hp, d, hser, rfl, rfl⟩      -- sent
  · exact .inr ⟨rfl, .inr ⟨rfl, rfl⟩⟩                                  -- pending (any other outcome is an error)

/-- any untouched field by `congrArg`, e.g. `(congrArg VSock.segs h.1 :)` -/
theorem sendControlPacket_frame {v : VSock} {c : Ctx} {h : Header} {v' : VSock} {c' : Ctx} {b : Bool}
    (hs : v.sendControlPacket c h = .ok (v', c', b)) :
    v' = { v with lastSentAckNr := v'.lastSentAckNr, lastSentWindow := v'.lastSentWindow,
                  consumedButUnackedBytes := v'.consumedButUnackedBytes, transportPending := v'.transportPending,
                  timers := { v.timers with ackDelay := v'.timers.ackDelay } } ∧
    c' = { c with sends := c'.sends, out := c'.out } := by
  rcases sendControlPacket_ok hs with ⟨_, _, _, _, rfl, rfl⟩ | ⟨_, ⟨rfl, rfl⟩ | ⟨rfl, rfl⟩⟩ <;> exact ⟨rfl, rfl⟩

theorem transitionToFinWait1_eq (v : VSock) :
    v.transitionToFinWait1 = if v.state.isLocalFinOrLater = true then v else
      { v with state := .finWait1 (wadd v.segs.sndUna (v.segs.segs.length % 65536)),
               seqNr := wadd (wadd v.segs.sndUna (v.segs.segs.length % 65536)) 1 } := by
  unfold transitionToFinWait1
  cases v.state <;> rfl

def finHeader (v : VSock) (fin : Nat) : Header := { v.outgoingHeader with htype := TYPE_ST_FIN, seqNr := fin }

theorem maybeSendFin_ok {v : VSock} {c : Ctx} {v' : VSock} {c' : Ctx} {b : Bool}
    (hs : v.maybeSendFin c = .ok (v', c', b)) :
    (b = true ∧ ∃ fin d, v.state.ourFinIfUnacked = some fin ∧ seqSub fin v.lastSentSeqNr = 1 ∧
      (finHeader v fin).serialize (v.ss.maxSs + UTP_HEADER) = some d ∧
      v' = { v.onPacketSent (finHeader v fin) with
               timers := { (v.onPacketSent (finHeader v fin)).timers with
                 retransmit := Timer.arm v.timers.retransmit v.pollNow v.rtte.rto false },
               lastSentSeqNr := fin } ∧
      c' = { c with sends := c.sends + 1, out := c.out ++ [d] }) ∨
    (b = false ∧ (v' = v ∧ c' = c ∨ v' = { v with transportPending := true } ∧ c' = { c with sends := c.sends + 1 })) := by
  unfold maybeSendFin at hs
  by_cases hp : v.transportPending = true
  · rw [if_pos hp] at hs; cases hs; exact .inr ⟨rfl, .inl ⟨rfl, rfl⟩⟩
  rw [if_neg hp] at hs
  split at hs
  · cases hs; exact .inr ⟨rfl, .inl ⟨rfl, rfl⟩⟩
  rename_i fin hfin
  by_cases hgap : seqSub fin v.lastSentSeqNr = 1
  · rw [if_neg (not_not_intro hgap)] at hs
    dsimp only at hs
    split at hs
    · cases hs
    rename_i v1 c1 sent hsc
    rcases sendControlPacket_ok hsc with ⟨rfl, _, d, hser, rfl, rfl⟩ | ⟨rfl, hrest⟩
    · cases hs; exact .inl ⟨rfl, fin, d, hfin, hgap, hser, rfl, rfl⟩
    · cases hs; exact .inr ⟨rfl, hrest⟩
  · rw [if_pos hgap] at hs; cases hs; exact .inr ⟨rfl, .inl ⟨rfl, rfl⟩⟩

/-- the farewell FIN touches neither stream half nor the wake-ups -/
theorem justBeforeDeath_halves (v : VSock) (c : Ctx) (e : Option VErr) :
    (v.justBeforeDeath c e).1.rx = ((e.elim (v.rx, []) (fun e => v.rx.enqueueError e.text)).1.markVsockClosed).1 ∧
    (v.justBeforeDeath c e).1.tx = v.tx.markVsockClosed.1 ∧
    (v.justBeforeDeath c e).2.wakes = c.wakes ++ (e.elim (v.rx, []) (fun e => v.rx.enqueueError e.text)).2 ++
      ((e.elim (v.rx, []) (fun e => v.rx.enqueueError e.text)).1.markVsockClosed).2 ++ v.tx.markVsockClosed.2 := by
  unfold justBeforeDeath
  cases e with
  | none => exact ⟨rfl, rfl, rfl⟩
  | some e =>
    dsimp only [Option.elim]
    split
    · split
      · rename_i hsc
        obtain ⟨hv, hc⟩ := sendControlPacket_frame hsc
        exact ⟨congrArg (·.rx) hv, congrArg (·.tx) hv, congrArg (·.wakes) hc⟩
      · exact ⟨rfl, rfl, rfl⟩
    · exact ⟨rfl, rfl, rfl⟩

/-- the connection after a `send_data!` that the transport accepted (timers: kept if already closer) -/
def dataSent (v : VSock) (now : Nat) (h : Header) (view : SegView) : VSock :=
  { v with segs := v.segs.onSent view.idx now, lastSentAckNr := h.ackNr, lastSentWindow := h.wnd,
           consumedButUnackedBytes := 0,
           lastSentSeqNr := if seqGt view.seqNr v.lastSentSeqNr then view.seqNr else v.lastSentSeqNr,
           seqNr := if seqGt view.seqNr v.lastSentSeqNr then wadd view.seqNr 1 else v.seqNr,
           timers := { v.timers with
             ackDelay := none,
             retransmit := Timer.arm v.timers.retransmit v.pollNow v.rtte.rto false,
             inactivity := Timer.arm v.timers.inactivity v.pollNow v.opts.inactivityTimeout false } }

def afterData (v : VSock) (now : Nat) (h : Header) (view : SegView) : DataSend → VSock
  | .sent => dataSent v now h view
  | .pending => { v with transportPending := true }
  | .emsgsize => v

theorem sendData_ok {v : VSock} {c : Ctx} {h : Header} {view : SegView} {v' : VSock} {c' : Ctx} {r : DataSend}
    (hs : v.sendData c h view = .ok (v', c', r)) :
    view.seg.retransmitCount ≠ v.opts.maxRetx ∧
    ∃ hb p, (v.dataHeader c h view).serialize UTP_HEADER = some hb ∧
      TxRing.prepare2 [] v.tx.ring view.payloadOffset view.seg.payloadSize = .ok p ∧
      v' = afterData v c.now (v.dataHeader c h view) view r ∧
      c' = { c with sends := c.sends + 1, out := if r = .sent then c.out ++ [hb ++ p] else c.out } := by
  unfold sendData at hs
  by_cases hcap : view.seg.retransmitCount = v.opts.maxRetx
  · rw [if_pos hcap] at hs; cases hs
  rw [if_neg hcap] at hs
  dsimp only at hs
  split at hs
  · cases hs
  split at hs
  · cases hs
  · cases hs
  rename_i _ hb hser _ p hprep
  refine ⟨hcap, hb, p, hser, hprep, ?_⟩
  cases ho : c.transport.outcome c.sends (hb ++ p).length <;> simp only [transportSend, ho] at hs <;> cases hs
  · refine ⟨?_, rfl⟩                                                  -- sent; then pending, EMSGSIZE
    show _ = dataSent _ _ _ _
    -- (the model writes `last_sent_seq_nr` and `seq_nr` under one `if`, `dataSent` has the `if` in each field)
    unfold dataSent onPacketSent
    split <;> rfl
  · exact ⟨rfl, rfl⟩
  · exact ⟨rfl, rfl⟩

/-! ### A pass over the send queue is a chain of `send_data!` calls

The recovery loop and the first-transmission loop of `send_tx_queue` differ in which segments they pick and when they
stop; what they do to the connection and to the wire is the same. -/

/-- `Run h V sent v c v' c'`: from `(v, c)`, `send_data!` was accepted for each view of `sent` in turn, then possibly
refused once; `(v', c')` is where that ends. Every view tried satisfies `V`. -/
inductive Run (h : Header) (V : SegView → Prop) : List SegView → VSock → Ctx → VSock → Ctx → Prop
  | nil (v : VSock) (c : Ctx) : Run h V [] v c v c
  | refused {v c s v' c' r} : V s → r ≠ .sent → v.sendData c h s = .ok (v', c', r) → Run h V [] v c v' c'
  | sent {v c s v1 c1 ss v' c'} : V s → v.sendData c h s = .ok (v1, c1, .sent) → Run h V ss v1 c1 v' c' →
      Run h V (s :: ss) v c v' c'

namespace Run
variable {h : Header} {V : SegView → Prop} {sent : List SegView} {v v' : VSock} {c c' : Ctx}

theorem all (hr : Run h V sent v c v' c') : ∀ s ∈ sent, V s := by
  induction hr with
  | nil | refused => exact fun _ hs => nomatch hs
  | sent hV _ _ ih => exact List.forall_mem_cons.mpr ⟨hV, ih⟩

/-- one datagram per accepted view, in order: the header (20 bytes = `UTP_HEADER`, the literal `C05.sentPayload` uses)
and that segment's payload -/
theorem out (hr : Run h V sent v c v' c') :
    ∃ ds, c'.out = c.out ++ ds ∧ ds.map (·.length) = sent.map (fun s => 20 + s.seg.payloadSize) := by
  induction hr with
  | nil => exact ⟨[], (List.append_nil _).symm, rfl⟩
  | refused _ hr hs =>
    obtain ⟨_, _, _, _, _, _, rfl⟩ := sendData_ok hs
    exact ⟨[], by simp [hr], rfl⟩
  | sent _ hs _ ih =>
    obtain ⟨_, hb, p, hser, hprep, _, rfl⟩ := sendData_ok hs
    obtain ⟨ds, hds, hlen⟩ := ih
    exact ⟨(hb ++ p) :: ds, by simp [hds], by
      simp only [List.map_cons, hlen, List.length_append, Wire.serialize_header_len _ _ hser, TxRing.prepare2_len _ _ _ _ _ hprep]⟩

theorem preserves {P : VSock → Prop}
    (step : ∀ {s v c v1 c1 r}, V s → P v → v.sendData c h s = .ok (v1, c1, r) → P v1)
    (hr : Run h V sent v c v' c') (h0 : P v) : P v' := by
  induction hr with
  | nil => exact h0
  | refused hV _ hs => exact step hV h0 hs
  | sent hV hs _ ih => exact ih (step hV h0 hs)

end Run

theorem newDataLoop_run {h : Header} {V : SegView → Prop} {views : List SegView} {v : VSock} {c : Ctx} {rem : Nat}
    {v' : VSock} {c' : Ctx} {r : Option (Nat × Nat)} (hV : ∀ s ∈ views, V s)
    (hl : newDataLoop h views v c rem = .ok (v', c', r)) :
    ∃ sent, Run h V sent v c v' c' ∧ (sent.map (·.seg.payloadSize)).sum ≤ rem := by
  fun_induction newDataLoop h views v c rem with
  | case1 | case2 | case3 => cases hl; exact ⟨[], .nil _ _, Nat.zero_le _⟩   -- no view left; the next one is over budget
  | case4 => cases hl                                                       -- `send_data!` failed
  | case5 item rest v c rem hfit v1 c1 hs ih =>                             -- sent: go on
    obtain ⟨sent, hrun, hsum⟩ := ih (fun s hm => hV s (List.mem_cons_of_mem _ hm)) hl
    exact ⟨item :: sent, .sent (hV _ List.mem_cons_self) hs hrun, by simp only [List.map_cons, List.sum_cons]; omega⟩
  | case6 item rest v c rem hfit v1 c1 hs | case7 item rest v c rem hfit v1 c1 hs =>   -- pending; EMSGSIZE
    cases hl; exact ⟨[], .refused (hV _ List.mem_cons_self) (by simp) hs, Nat.zero_le _⟩

/-- rfc6675 §5 step C: apart from the one retransmission that entering recovery triggers (`total_retransmitted_segments = 0`)
the loop sends only while the window left over the pipe estimate exceeds one segment, and charges every retransmission to
it. The bound is for passes whose segments are at most `mss` (a retransmitted size probe is larger). -/
theorem recoveryLoop_run {h : Header} {mss : Nat} {V : SegView → Prop} {views : List SegView} {v : VSock} {c : Ctx}
    {l : RecLoop} {v' : VSock} {c' : Ctx} {l' : RecLoop} {p : Bool} (hV : ∀ s ∈ views, V s)
    (hl : recoveryLoop h mss views v c l = .ok (v', c', l', p)) :
    ∃ sent, Run h V sent v c v' c' ∧ ((∀ s ∈ sent, s.seg.payloadSize ≤ mss) →
      (sent.map (·.seg.payloadSize)).sum ≤ l.cwnd + (if l.st.totalRetransmittedSegments = 0 then mss else 0)) := by
  fun_induction recoveryLoop h mss views v c l with
  -- no view left; paced out; a hole with no SACK after it
  | case1 | case2 | case4 => cases hl; exact ⟨[], .nil _ _, fun _ => Nat.zero_le _⟩
  | case3 seg rest v c l _ _ ih => exact ih (fun s hm => hV s (List.mem_cons_of_mem _ hm)) hl   -- not lost: skipped
  | case5 | case6 => cases hl                                                                    -- error; EMSGSIZE
  | case7 seg rest v c l _ _ _ v1 c1 hs =>                                                       -- pending
    cases hl; exact ⟨[], .refused (hV _ List.mem_cons_self) (by simp) hs, fun _ => Nat.zero_le _⟩
  | case8 seg rest v c l hgo _ _ v1 c1 hs rec' ih =>                                             -- sent: go on
    obtain ⟨sent, hrun, hsum⟩ := ih (fun s hm => hV s (List.mem_cons_of_mem _ hm)) hl
    refine ⟨seg :: sent, .sent (hV _ List.mem_cons_self) hs hrun, fun hsz => ?_⟩
    obtain ⟨hseg, hrest⟩ := List.forall_mem_cons.mp hsz
    have := hsum hrest
    simp only [rec', Nat.succ_ne_zero, if_false, Nat.add_zero] at this
    simp only [List.map_cons, List.sum_cons]
    -- the first retransmission is free; every later one found `cwnd > mss ≥ payload`
    rcases Decidable.not_not.mp hgo with h0 | h1
    · rw [if_pos h0]; omega
    · split <;> omega

theorem segmentLoop_preserves {P : VSock → Prop} (hss : ∀ {v ss'}, P v → P { v with ss := ss' })
    (step : ∀ {v p pr}, v.segs.segs.length < MAX_TX_SEGMENTS → P v → P { v with segs := v.segs.enqueue p pr })
    {fuel : Nat} {v : VSock} {remaining win : Nat} (h : P v) : P (segmentLoop fuel v remaining win).1 := by
  fun_induction segmentLoop fuel v remaining win with
  | case1 | case2 => exact h                                                   -- out of fuel; nothing left, no window, or the cap
  | case3 => exact hss h                                                       -- Nagle holds a partial segment back
  | case4 _ _ _ _ hgo => exact step (Decidable.not_not.mp hgo).2.2 (hss h)     -- a probe is enqueued: last one
  | case5 _ _ _ _ hgo _ _ _ _ _ _ _ _ _ _ _ ih => exact ih (step (Decidable.not_not.mp hgo).2.2 (hss h))   -- an ordinary segment: go on

end UtpVerif.Lemmas.VSock
