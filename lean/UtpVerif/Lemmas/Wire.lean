import UtpVerif.Model.Wire
/-! `Model/Wire`: the codecs are inverse on values that fit their width, one step of the extension chain when it is parsed
and when it is written, and the selective-ACK bitmap bit by bit. -/
namespace UtpVerif.Lemmas.Wire
open UtpVerif.Model UtpVerif.Gen

/-- Well-formed selective ACK: what `SelectiveAck::new` and `SelectiveAck::deserialize` produce. -/
def SackWF (s : Sack) : Prop :=
  s.data.length = 8 ∧ (∀ b ∈ s.data, b < 256) ∧
  ∃ k, k ≤ 8 ∧ s.len = k * 8 ∧ s.data.drop k = List.replicate (8 - k) 0

/-- Well-formed header: every field fits its wire width. -/
def HeaderWF (h : Header) : Prop :=
  h.htype ≤ 4 ∧ h.connId < 65536 ∧ h.seqNr < 65536 ∧ h.ackNr < 65536 ∧
  h.ts < 4294967296 ∧ h.tsDiff < 4294967296 ∧ h.wnd < 4294967296 ∧
  (∀ s, h.sack = some s → SackWF s) ∧ (∀ r, h.closeReason = some r → r < 65536)

theorem be16_toBe16 (n : Nat) (h : n < 65536) : be16 (n / 256 % 256) (n % 256) = n := by
  unfold be16
  rw [Nat.mod_eq_of_lt (Nat.div_lt_of_lt_mul h), Nat.div_add_mod']

theorem be32_toBe32 (n : Nat) (h : n < 4294967296) :
    be32 (n / 16777216 % 256) (n / 65536 % 256) (n / 256 % 256) (n % 256) = n := by
  unfold be32; omega

theorem be16_lt {a b : Nat} (ha : a < 256) (hb : b < 256) : be16 a b < 65536 := by unfold be16; omega

theorem be32_lt {a b c d : Nat} (ha : a < 256) (hb : b < 256) (hc : c < 256) (hd : d < 256) :
    be32 a b c d < 4294967296 := by unfold be32; omega

theorem sack_deserialize_asBytes (s : Sack) (h : SackWF s) : Sack.deserialize s.asBytes = s := by
  obtain ⟨hl, _, k, hk, hlen, hz⟩ := h
  have htl : (s.data.take k).length = k := by rw [List.length_take, hl, Nat.min_eq_left hk]
  -- `asBytes` is `data.take k`; `deserialize` pads it with `8 - k` zeros, which `hz` says is `data.drop k`
  unfold Sack.deserialize Sack.asBytes
  rw [hlen, Nat.mul_div_cancel _ (by decide), Nat.min_eq_left hk]
  simp only [htl]
  rw [Nat.min_eq_left hk, List.take_take, Nat.min_self, ← hz, List.take_append_drop, ← hlen]

theorem sack_asBytes_length (s : Sack) : s.asBytes.length ≤ 8 :=
  Nat.le_trans (List.length_take_le _ _) (Nat.min_le_right _ _)

theorem sack_deserialize_wf (bytes : List Nat) (hb : ∀ b ∈ bytes, b < 256) : SackWF (Sack.deserialize bytes) := by
  have h8 : min bytes.length 8 ≤ 8 := Nat.min_le_right _ _
  have hl : (bytes.take (min bytes.length 8)).length = min bytes.length 8 := by
    rw [List.length_take, Nat.min_eq_left (Nat.min_le_left _ _)]
  unfold Sack.deserialize SackWF
  refine ⟨?_, ?_, _, h8, rfl, ?_⟩
  · rw [List.length_append, hl, List.length_replicate, Nat.add_sub_cancel' h8]
  · intro b hbm
    rcases List.mem_append.mp hbm with h | h
    · exact hb b (List.mem_of_mem_take h)
    · rw [(List.mem_replicate.mp h).2]
      decide
  · rw [List.drop_append_of_le_length (Nat.le_of_eq hl.symm), List.drop_of_length_le (Nat.le_of_eq hl), List.nil_append]

theorem closeReason_roundtrip (r : Nat) (h : r < 65536) : closeReasonParse (closeReasonBytes r) = r :=
  be16_toBe16 r h

theorem closeReasonParse_lt (b : List Nat) (hb : ∀ x ∈ b, x < 256) : closeReasonParse b < 65536 := by
  unfold closeReasonParse
  split
  · exact be16_lt (hb _ (by simp)) (hb _ (by simp))
  · decide

theorem parseExts_cons (id nxt extLen : Nat) (rest : List Nat) (s : Option Sack) (c : Option Nat) (t : Nat)
    (hid : id ≠ 0) (hlen : extLen ≤ rest.length) :
    parseExts id (nxt :: extLen :: rest) s c t =
      parseExts nxt (rest.drop extLen)
        (if id = EXT_SELECTIVE_ACK then some (Sack.deserialize (rest.take extLen)) else s)
        (if id ≠ EXT_SELECTIVE_ACK ∧ id = EXT_CLOSE_REASON ∧ extLen = 4 then some (closeReasonParse (rest.take extLen)) else c)
        (t + 2 + extLen) := by
  rw [parseExts, if_neg hid, if_pos hlen]

theorem parseExts_step (id nxt : Nat) (payload tail : List Nat) (s : Option Sack) (c : Option Nat) (t : Nat)
    (hid : id ≠ 0) :
    parseExts id (nxt :: payload.length :: (payload ++ tail)) s c t =
      parseExts nxt tail
        (if id = EXT_SELECTIVE_ACK then some (Sack.deserialize payload) else s)
        (if id ≠ EXT_SELECTIVE_ACK ∧ id = EXT_CLOSE_REASON ∧ payload.length = 4 then some (closeReasonParse payload) else c)
        (t + 2 + payload.length) := by
  rw [parseExts_cons _ _ _ _ _ _ _ hid (by rw [List.length_append]; exact Nat.le_add_right _ _),
    List.take_left, List.drop_left]

theorem parseExts_zero (buf : List Nat) (s : Option Sack) (c : Option Nat) (t : Nat) :
    parseExts 0 buf s c t = some (s, c, t) := by
  unfold parseExts; simp

/-- (the sum is the number whose binary digits are the flags `c 0 … c (n-1)`) -/
theorem bitsum_lt (c : Nat → Bool) (n : Nat) :
    ((List.range n).map fun b => if c b then 2 ^ b else 0).sum < 2 ^ n := by
  induction n with
  | zero => simp
  | succ n ih =>
    rw [List.range_succ, List.map_append, List.sum_append, Nat.pow_succ]
    simp only [List.map_cons, List.map_nil, List.sum_cons, List.sum_nil, Nat.add_zero]
    split <;> omega

theorem bitsum_testBit (c : Nat → Bool) (n j : Nat) :
    (((List.range n).map fun b => if c b then 2 ^ b else 0).sum).testBit j = (decide (j < n) && c j) := by
  -- bits at or above `n` are 0: the sum is below `2 ^ n ≤ 2 ^ j`
  by_cases hjn : n ≤ j
  · rw [Nat.testBit_lt_two_pow (Nat.lt_of_lt_of_le (bitsum_lt c n) (Nat.pow_le_pow_right (by decide) hjn)),
      decide_eq_false (Nat.not_lt.2 hjn), Bool.false_and]
  induction n with
  | zero => exact absurd (Nat.zero_le j) hjn
  | succ n ih =>
    have hlt := bitsum_lt c n
    rw [List.range_succ, List.map_append, List.sum_append]
    simp only [List.map_cons, List.map_nil, List.sum_cons, List.sum_nil, Nat.add_zero]
    rcases Nat.lt_or_eq_of_le (Nat.le_of_lt_succ (Nat.not_le.1 hjn)) with hj | rfl
    · -- below `n`: adding `2 ^ n` (or 0) does not touch bit `j`
      split
      · rw [Nat.add_comm, Nat.testBit_two_pow_add_gt hj, ih (Nat.not_le.2 hj)]; simp [hj, Nat.lt_succ_of_lt hj]
      · rw [Nat.add_zero, ih (Nat.not_le.2 hj)]; simp [hj, Nat.lt_succ_of_lt hj]
    · -- bit `n`: the lower sum is below `2 ^ n`, so the bit is the flag itself
      split
      · rename_i hc
        rw [Nat.add_comm, Nat.testBit_two_pow_add_eq, Nat.testBit_lt_two_pow hlt]; simp [hc]
      · rename_i hc
        rw [Nat.add_zero, Nat.testBit_lt_two_pow hlt]; simp [hc]

/-- **Bit `i` of a locally built selective ACK is set exactly when `i` is one of the given
indices** (among those taken before the first index ≥ 64). -/
theorem ofIndices_bit (idxs : List Nat) (i : Nat) (hi : i < 64) :
    (Sack.ofIndices idxs).bit i = true ↔ i ∈ idxs.takeWhile (· < Gen.SACK_DEPTH) := by
  have hk : i / 8 < 8 := by omega
  have hj : i % 8 < 8 := Nat.mod_lt _ (by decide)
  unfold Sack.ofIndices Sack.bit
  simp only [List.getD_eq_getElem?_getD, List.getElem?_map, List.getElem?_range hk, Option.map_some, Option.getD_some]
  -- (through `decide` only to turn `x / 2 ^ j % 2 = 1` into `testBit`)
  rw [decide_eq_true_iff, ← decide_eq_true_iff (p := _ / _ % 2 = 1), ← Nat.testBit_eq_decide_div_mod_eq, bitsum_testBit]
  simp [hj, Nat.div_add_mod']

/-! ### One `add_ext!` of `serialize`; the 20-byte buffer of `send_data!` fits no extension -/

theorem addExt_nofit (bufLen : Nat) (out : List Nat) (pos id : Nat) (payload : List Nat)
    (h : ¬ out.length + 2 + payload.length ≤ bufLen) : addExt bufLen out pos id payload = (out, pos) :=
  if_neg h

/-- One `add_ext!` that fits, on an output so far whose pending next-extension byte `x` is at `pos = pre.length`: `x`
becomes `id`, and the extension is appended behind a fresh pending byte. -/
theorem addExt_fit (bufLen : Nat) (pre mid : List Nat) (x pos id : Nat) (payload : List Nat) (hpos : pos = pre.length)
    (h : (pre ++ x :: mid).length + 2 + payload.length ≤ bufLen) :
    addExt bufLen (pre ++ x :: mid) pos id payload =
      (pre ++ id :: mid ++ NO_NEXT_EXT :: payload.length % 256 :: payload, (pre ++ x :: mid).length) := by
  unfold addExt
  rw [if_pos h, hpos, List.set_append_right _ _ (Nat.le_refl _), Nat.sub_self, List.set_cons_zero]
  simp only [List.append_assoc, List.cons_append, List.nil_append]

theorem serialize_header_len (h : Header) (hb : List Nat) (hs : h.serialize UTP_HEADER = some hb) : hb.length = 20 := by
  unfold Header.serialize at hs
  rw [if_neg (Nat.lt_irrefl _)] at hs
  extract_lets base s1 s2 at hs
  cases hs
  have hbase : base.length = 20 := rfl
  clear_value base
  have nf : ∀ pos id payload, addExt UTP_HEADER base pos id payload = (base, pos) :=
    fun pos id payload => addExt_nofit _ _ _ _ _ (by rw [hbase, show UTP_HEADER = 20 from rfl]; omega)
  unfold s2 s1
  cases h.sack <;> cases h.closeReason <;> simp only [nf] <;> exact hbase

end UtpVerif.Lemmas.Wire
