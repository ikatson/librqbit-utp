import UtpVerif.Lemmas.VSock
/-! What the receiving half of `poll` (`process_incoming_message`: the state table, acknowledgement processing, the
payload) does to the connection, once per phase. -/
namespace UtpVerif.Lemmas.VSock
open UtpVerif.Model UtpVerif.Model.VSock UtpVerif.Gen

/-- `v'` is `v` up to what the payload half of `process_incoming_message` and an ACK may write; the connection state and
the whole send side are those of `v` (for one of them: `(congrArg VSock.segs h :)`). An `abbrev`, so that `rw [h]` and `rfl`
see through it; `v'` is on both sides, so it is not for `obtain rfl`. -/
abbrev RxUpd (v v' : VSock) : Prop :=
  v' = { v with ss := v'.ss, rx := v'.rx, tx := v'.tx, lastConsumedRemoteSeqNr := v'.lastConsumedRemoteSeqNr,
                consumedButUnackedBytes := v'.consumedButUnackedBytes, lastSentAckNr := v'.lastSentAckNr,
                lastSentWindow := v'.lastSentWindow, transportPending := v'.transportPending,
                timers := { v.timers with inactivity := v'.timers.inactivity, ackDelay := v'.timers.ackDelay } }

theorem RxUpd.trans {v v' v'' : VSock} (h : RxUpd v v') (h' : RxUpd v' v'') : RxUpd v v'' := by
  rw [h', h]

theorem sendAck_rxUpd {v : VSock} {c : Ctx} {v' : VSock} {c' : Ctx} {b : Bool}
    (hs : v.sendAck c = .ok (v', c', b)) : RxUpd v v' ∧ v'.timers.inactivity = v.timers.inactivity := by
  have h := (sendControlPacket_frame (h := { v.outgoingHeader with sack := v.rx.ooq.selectiveAck }) hs).1
  exact ⟨by rw [h], (congrArg (·.timers.inactivity) h :)⟩

theorem payloadPart_stale {v : VSock} {c : Ctx} {msg : Msg} {res : OnAckResult} {p : Bool}
    (hd : msg.h.htype = TYPE_ST_DATA) (ho : seqSub msg.h.seqNr (wadd v.lastConsumedRemoteSeqNr 1) < 0) :
    v.payloadPart c msg res p = .ok (v.forceImmediateAck, c, res) := by
  unfold payloadPart
  simp only [bind, Except.bind, pure, Except.pure]
  rw [if_pos hd, if_pos ho]

/-- The payload half of `process_incoming_message` writes nothing outside the receive half's fields, and restarts the
inactivity timer only for an ST_DATA that the reassembly queue consumed. -/
theorem payloadPart_ok {v : VSock} {c : Ctx} {msg : Msg} {res : OnAckResult} {p : Bool} {v' : VSock} {c' : Ctx}
    {r : OnAckResult} (h : v.payloadPart c msg res p = .ok (v', c', r)) :
    RxUpd v v' ∧ (v'.timers.inactivity = v.timers.inactivity ∨ ∃ rx' s b ws, msg.h.htype = TYPE_ST_DATA ∧
      v.rx.addRemove msg.h.htype msg.payload (seqSub msg.h.seqNr (wadd v.lastConsumedRemoteSeqNr 1)).toNat =
        some (rx', .consumed s b, ws)) := by
  unfold payloadPart at h
  simp only [bind, Except.bind, pure, Except.pure] at h
  -- (`split` on an `if` rewrites the whole term, which is large here: `by_cases` + `rw` instead)
  by_cases hd : msg.h.htype = TYPE_ST_DATA
  · rw [if_pos hd] at h
    by_cases ho : seqSub msg.h.seqNr (wadd v.lastConsumedRemoteSeqNr 1) < 0
    · rw [if_pos ho] at h; cases h; exact ⟨rfl, .inl rfl⟩
    · rw [if_neg ho] at h
      -- the end of the ST_DATA arm, from any connection `w` written so far: a forced ACK, if one is due, is a control
      -- send on top of `w`
      have ack : ∀ {w : VSock} {c1 : Ctx} {due : Prop} [Decidable due], RxUpd v w →
          (if due then match w.forceImmediateAck.sendAck c1 with
              | .error e => .error e | .ok (v2, c2, _) => .ok (v2, c2, res)
            else .ok (w, c1, res)) = Except.ok (v', c', r) →
          RxUpd v v' ∧ v'.timers.inactivity = w.timers.inactivity := by
        intro w c1 due _ hw h
        split at h
        · split at h <;> cases h
          rename_i hsa
          exact ⟨(hw.trans (v'' := w.forceImmediateAck) rfl).trans (sendAck_rxUpd hsa).1, (sendAck_rxUpd hsa).2⟩
        · cases h; exact ⟨hw, rfl⟩
      cases har : v.rx.addRemove msg.h.htype msg.payload
          (seqSub msg.h.seqNr (wadd v.lastConsumedRemoteSeqNr 1)).toNat with
      | none => rw [har] at h; cases h
      | some x =>
        obtain ⟨rx', ar, ws⟩ := x
        rw [har] at h
        cases ar <;> dsimp only at h
        case consumed => exact ⟨(ack rfl h).1, .inr ⟨_, _, _, _, hd, rfl⟩⟩
        case unavailable | alreadyPresent => exact (ack rfl h).imp_right .inl
        all_goals cases h
  · rw [if_neg hd] at h
    by_cases hf : msg.h.htype = TYPE_ST_FIN
    · rw [if_pos hf] at h
      -- (`split` from here on: what is left of the term is small)
      split at h
      · split at h                               -- the first remote FIN, at or past the consumed point
        · cases h                                -- `add_remove` panicked
        · split at h <;> cases h                 -- its verdict: three of them are errors
          exact ⟨rfl, .inl rfl⟩
      · cases h; exact ⟨rfl, .inl rfl⟩           -- a repeated or stale FIN: the forced ACK only
    · rw [if_neg hf] at h; cases h; exact ⟨rfl, .inl rfl⟩

/-- (`cc`, `rtt`: the controller's answers, which this statement leaves open) -/
theorem ackPart_cases (v : VSock) (c : Ctx) (msg : Msg) :
    match v.ackPart c msg with
    | .ok (v1, _, res) => ∃ s1 s2 rec' ss rtte cc rtt cc',
        v.segs.removeUpToAck v.pollNow msg.h.ackNr msg.h.sack = some (s1, res) ∧
        v.recovery.onAck msg.h s1 (clampLastSent v.lastSentSeqNr s1.sndUna) cc v.pollNow rtt = some (rec', s2, cc') ∧
        v1 = { v with segs := s2, lastSentSeqNr := clampLastSent v.lastSentSeqNr s1.sndUna, recovery := rec',
                      ss := ss, rtte := rtte, lastRemoteTimestamp := msg.h.ts, lastRemoteWindow := msg.h.wnd }
    | .error _ => v.segs.removeUpToAck v.pollNow msg.h.ackNr msg.h.sack = none ∨ ∃ s1 res cc rtt,
        v.segs.removeUpToAck v.pollNow msg.h.ackNr msg.h.sack = some (s1, res) ∧
        v.recovery.onAck msg.h s1 (clampLastSent v.lastSentSeqNr s1.sndUna) cc v.pollNow rtt = none := by
  -- (worked on as a hypothesis: in a goal the `cases` below would abstract over a term in which every
  -- `{ v with .. }` after the RTT-sample `match` has copied that `match` into each of its 27 fields)
  generalize hr : v.ackPart c msg = x
  unfold ackPart at hr
  simp only [bind, Except.bind, pure, Except.pure] at hr
  split at hr
  · subst hr; exact .inl ‹_›
  · rename_i y hrm
    cases hrec : v.recovery.isRecovering <;> cases hrtt : y.2.newRtt <;> simp only [hrec, hrtt] at hr <;>
    · split at hr <;> subst hr
      · exact .inr ⟨_, _, _, _, hrm, ‹_›⟩
      · exact ⟨_, _, _, _, _, _, _, _, hrm, ‹_›, rfl⟩

/-- The edges of the state table (`stateGate`) that leave the segment queue alone: every one but the answer to the
remote's FIN in Established, which discards the never-sent tail. -/
inductive Edge : VState → VState → Prop
  | stay (s) : Edge s s
  | close (s) : Edge s .closed
  | establish (n) : Edge (.synAckSent n) .established
  | finAcked (f) : Edge (.finWait1 f) .finWait2
  | remoteFin (f rf) : Edge (.finWait1 f) (.lastAck f rf)

theorem Edge.ourFin {s s' : VState} (h : Edge s s') :
    s'.ourFinIfUnacked = none ∨ s'.ourFinIfUnacked = s.ourFinIfUnacked := by
  cases h <;> first | exact .inr rfl | exact .inl rfl

theorem Edge.localFin {s s' : VState} (h : Edge s s') (hs : s.isLocalFinOrLater = true) :
    s'.isLocalFinOrLater = true := by
  cases h <;> first | exact hs | rfl

/-- What an entry of the per-(state, packet type) table may be. One entry answers the remote's in-sequence FIN in
Established (D22, D24: the never-sent tail is discarded and our FIN numbered after what stays queued); every other
one moves the state along an `Edge`, may restart the inactivity timer and touches nothing else; the table fails only
on a RESET, or in SynReceived. -/
def GateOk (v : VSock) (hdr : Header) (g : Gate) : Prop :=
  (v.state = .established ∧ hdr.htype = TYPE_ST_FIN ∧ hdr.seqNr = wadd v.lastConsumedRemoteSeqNr 1 ∧
    g = .proceed
      { v with state := .lastAck (wadd v.segs.discardUnsent.sndUna (v.segs.discardUnsent.segs.length % 65536)) hdr.seqNr,
               seqNr := wadd (wadd v.segs.discardUnsent.sndUna (v.segs.discardUnsent.segs.length % 65536)) 1,
               segs := v.segs.discardUnsent }) ∨
  ∃ s' ti, Edge v.state s' ∧ g.vsock = { v with state := s', timers := { v.timers with inactivity := ti } } ∧
    ∀ e w, g = .fail e w → e = .stResetReceived ∨ v.state = .synReceived

theorem stateGate_ok (v : VSock) (hdr : Header) : GateOk v hdr (v.stateGate hdr) := by
  unfold stateGate
  generalize hs : v.state = st
  -- (`iteInduction` and not `split`: it takes an `if` apart without rewriting the term)
  cases st <;> dsimp only <;> repeat' (apply iteInduction <;> intro _)
  all_goals unfold GateOk
  all_goals first
    | exact .inl ⟨hs, ‹_›, Decidable.not_not.mp ‹_›, rfl⟩          -- the entry Established, in-sequence FIN
    | refine .inr ⟨_, _, ?_, rfl, ?_⟩                               -- any other entry: its edge, and when it fails
  all_goals first
    | (rw [hs]; constructor)                                        -- the edge
    | (rintro _ _ ⟨⟩ <;> first | exact .inl rfl | exact .inr hs)    -- fails only on a RESET, or in SynReceived

theorem processAccepted_ok {v : VSock} {c : Ctx} {msg : Msg} {p : Bool} {v' : VSock} {c' : Ctx} {r : OnAckResult}
    (h : v.processAccepted c msg p = .ok (v', c', r)) :
    ∃ v1 c1 res, v.ackPart c msg = .ok (v1, c1, res) ∧ v1.payloadPart c1 msg res p = .ok (v', c', r) := by
  unfold processAccepted at h
  split at h
  · cases h
  · exact ⟨_, _, _, ‹_›, h⟩

theorem processIncomingMessage_ok {v : VSock} {c : Ctx} {msg : Msg} {v' : VSock} {c' : Ctx} {r : OnAckResult}
    (h : v.processIncomingMessage c msg = .ok (v', c', r)) :
    v' = (v.stateGate msg.h).vsock ∨ ∃ v1 c1 res, (v.stateGate msg.h).vsock.ackPart c msg = .ok (v1, c1, res) ∧
      v1.payloadPart c1 msg res v.state.isRemoteFinOrLater = .ok (v', c', r) := by
  unfold processIncomingMessage at h
  split at h <;> rename_i hg <;> rw [hg]
  · cases h; exact .inl rfl
  · cases h
  · exact .inr (processAccepted_ok h)

/-- the two `P`-hypotheses about the channel fields: the loop pops `rxQueue` and registers the waker -/
theorem recvLoop_preserves {P : VSock → Prop}
    (step : ∀ {v c msg v' c' r}, P v → v.processIncomingMessage c msg = .ok (v', c', r) → P v')
    (hq : ∀ {v q}, P v → P { v with rxQueue := q }) (hw : ∀ {v}, P v → P { v with rxWakerRegistered := true })
    {fuel : Nat} {v : VSock} {c : Ctx} {acc : OnAckResult} {r : VSock × Ctx × OnAckResult × RecvLoop}
    (h : P v) (hp : recvLoop fuel v c acc = .ok r) : P r.1 := by
  fun_induction recvLoop fuel v c acc with
  | case1 | case2 => cases hp; exact h          -- out of fuel; channel closed
  | case3 => cases hp; exact hw h                -- channel empty: waker registered
  | case4 => cases hp                            -- the packet failed
  | case5 fuel v c acc msg rest _ v1 v2 c1 res hpm => cases hp; exact step (hq h) hpm               -- closed or transport pending: stop
  | case6 fuel v c acc msg rest _ v1 v2 c1 res hpm _ _ ih => exact ih (step (hq h) hpm) hp          -- next packet

end UtpVerif.Lemmas.VSock
